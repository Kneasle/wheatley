/-
A block of a notation as a list of tokens (`Tok`), how it is written (`render`) and how `convert_pn` cuts what is
written into pieces again, one for each token: `subCross` turns `render` into `canon`, `strip` leaves `J`,
`replace` and `split` leave the pieces (`pnPieces_render`).
-/
import Wheatley.Lemmas.RoundTrip
namespace Wheatley.RoundTrip

inductive Tok where
  /-- a cross, written `x` or `-`, with any number of dots before and after it -/
  | cross (sym : Char) (before after : Nat)
  /-- a change that makes places, written as its bell symbols -/
  | pl (ps : List Nat)

def Tok.isCross : Tok → Bool
  | .cross .. => true
  | .pl _ => false

def Tok.piece : Tok → List Char
  | .cross .. => ['-']
  | .pl ps => ps.map bellChar

def Tok.WF : Tok → Prop
  | .cross sym _ _ => Wheatley.isCross sym = true
  | .pl ps => ps ≠ [] ∧ ∀ p ∈ ps, 1 ≤ p ∧ p ≤ 16

/-- The block as written: a dot only where it is needed (between two place changes), dots at will around
a cross. `prev` = the previous token was a place change. -/
def render : Bool → List Tok → List Char
  | _, [] => []
  | _, .cross sym b a :: rest => dots b ++ sym :: (dots a ++ render false rest)
  | prev, .pl ps :: rest => (if prev then ['.'] else []) ++ (ps.map bellChar ++ render true rest)

/-- … and after `re.sub("[.]*[x-][.]*", ".-.", …)`. -/
def canon : Bool → List Tok → List Char
  | _, [] => []
  | _, .cross .. :: rest => '.' :: '-' :: '.' :: canon false rest
  | prev, .pl ps :: rest => (if prev then ['.'] else []) ++ (ps.map bellChar ++ canon true rest)

theorem bell_facts : ∀ p ∈ List.range' 1 16,
    bellChar p ≠ '.' ∧ isCross (bellChar p) = false ∧ stripSet.contains (bellChar p) = false ∧
    bellChar p ≠ ',' ∧ upperAscii (bellChar p) = bellChar p ∧ bellOfChar (bellChar p) = some p ∧
    bellChar p ≠ '-' := by decide +kernel

structure BellSym (c : Char) (p : Nat) : Prop where
  ne_dot : c ≠ '.'
  not_cross : isCross c = false
  not_strip : isStrip c = false
  ne_comma : c ≠ ','
  upper : upperAscii c = c
  bell : bellOfChar c = some p
  ne_dash : c ≠ '-'

theorem bellSym {p : Nat} (h : 1 ≤ p ∧ p ≤ 16) : BellSym (bellChar p) p := by
  obtain ⟨h1, h2, h3, h4, h5, h6, h7⟩ := bell_facts p (List.mem_range'_1.mpr ⟨h.1, Nat.lt_succ_of_le h.2⟩)
  exact ⟨h1, h2, h3, h4, h5, h6, h7⟩

/-- After a cross the scan drops the dots in front of what follows.  That changes nothing: if a cross follows, its
dots are swallowed either way, and a place change is written without dots in front. -/
theorem subCross_dropDots_render (l : List Tok) (h : ∀ t ∈ l, t.WF) :
    subCross (dropDots (render false l)) = subCross (render false l) := by
  cases l with
  | nil => rfl
  | cons t r =>
    have ht := h t List.mem_cons_self
    cases t with
    | cross sym b a =>
      rw [render, dropDots_dots, dropDots_cons_of_ne _ _ (cross_ne_dot sym ht), subCross_cross b sym _ ht]
      exact subCross_cross 0 sym _ ht
    | pl ps =>
      cases ps with
      | nil => exact absurd rfl ht.1
      | cons p ps =>
        exact congrArg subCross (dropDots_cons_of_ne (bellChar p) _ (bellSym (ht.2 p List.mem_cons_self)).ne_dot)

theorem subCross_render : ∀ (n : Nat) (l : List Tok), l.length = n → (∀ t ∈ l, t.WF) →
    ∀ prev, subCross (render prev l) = canon prev l := by
  rintro _ l - hwf prev
  fun_induction render prev l with
  | case1 => rfl
  | case2 _ sym b a rest ih =>
    obtain ⟨ht, hrest⟩ := List.forall_mem_cons.mp hwf
    rw [canon, subCross_cross b sym _ ht, dropDots_dots, subCross_dropDots_render rest hrest, ih hrest]
  | case3 prev ps rest ih =>
    obtain ⟨ht, hrest⟩ := List.forall_mem_cons.mp hwf
    have hpl : ∀ c ∈ ps.map bellChar, Plain c := List.forall_mem_map.mpr fun p hp =>
      ⟨(bellSym (ht.2 p hp)).ne_dot, (bellSym (ht.2 p hp)).not_cross⟩
    rw [canon, ← ih hrest]
    cases prev with
    | false => exact subCross_plains _ _ hpl
    | true => exact subCross_dot_plains _ _ (mt List.map_eq_nil_iff.mp ht.1) hpl

def sepOf (t1 t2 : Tok) : List Char := if t1.isCross && t2.isCross then ['.', '.'] else ['.']

/-- The block between the stripped ends: pieces joined by one dot, two between adjacent crosses. -/
def J : List Tok → List Char
  | [] => []
  | [t] => t.piece
  | t1 :: t2 :: rest => t1.piece ++ (sepOf t1 t2 ++ J (t2 :: rest))

def leadOf (prev : Bool) : Tok → List Char
  | .cross .. => ['.']
  | .pl _ => if prev then ['.'] else []

theorem leadOf_strip (prev : Bool) (t : Tok) : ∀ c ∈ leadOf prev t, isStrip c = true := by
  have hd : ∀ c ∈ ['.'], isStrip c = true := by decide
  cases t with
  | cross => exact hd
  | pl => cases prev; exact List.forall_mem_nil _; exact hd

theorem canon_eq : ∀ (rest : List Tok) (t : Tok) (prev : Bool), ∃ b, (∀ c ∈ b, isStrip c = true) ∧
    canon prev (t :: rest) = leadOf prev t ++ (J (t :: rest) ++ b) := by
  intro rest
  induction rest with
  | nil =>
    intro t prev
    cases t with
    | cross sym b a => exact ⟨['.'], by decide, rfl⟩
    | pl ps => exact ⟨[], List.forall_mem_nil _, rfl⟩
  | cons t2 r ih =>
    intro t prev
    cases t with
    | cross sym b a =>
      obtain ⟨b, hb, e⟩ := ih t2 false
      -- the dot that ends `.-.` and the lead of `t2` make up `sepOf`
      exact ⟨b, hb, by rw [canon, e]; cases t2 <;> rfl⟩
    | pl ps =>
      obtain ⟨b, hb, e⟩ := ih t2 true
      exact ⟨b, hb, by rw [canon, e, J, List.append_assoc, List.append_assoc]; cases t2 <;> rfl⟩

theorem piece_not_strip (t : Tok) (h : t.WF) : t.piece ≠ [] ∧ ∀ c ∈ t.piece, isStrip c = false := by
  cases t with
  | cross sym b a => exact ⟨List.cons_ne_nil _ _, (by decide : ∀ c ∈ ['-'], isStrip c = false)⟩
  | pl ps =>
    refine ⟨mt List.map_eq_nil_iff.mp h.1, fun c hc => ?_⟩
    obtain ⟨p, hp, rfl⟩ := List.mem_map.mp hc
    exact (bellSym (h.2 p hp)).not_strip

theorem piece_nodot (t : Tok) (h : t.WF) : '.' ∉ t.piece :=
  fun hm => ne_dot_of_not_strip ((piece_not_strip t h).2 _ hm) rfl

/-- `J` begins and ends with a character that `strip` leaves, in the form `strip_core` asks for. -/
theorem J_ends (l : List Tok) (hne : l ≠ []) (h : ∀ u ∈ l, u.WF) :
    ∃ x xs ys y, J l = x :: xs ∧ J l = ys ++ [y] ∧ isStrip x = false ∧ isStrip y = false := by
  fun_induction J l with
  | case1 => exact absurd rfl hne
  | case2 t =>
    obtain ⟨hne, hp⟩ := piece_not_strip t (h t List.mem_cons_self)
    exact ⟨_, _, _, _, (List.cons_head_tail hne).symm, (List.dropLast_concat_getLast hne).symm,
      hp _ (List.head_mem hne), hp _ (List.getLast_mem hne)⟩
  | case3 t t2 r ih =>
    obtain ⟨ht, h2⟩ := List.forall_mem_cons.mp h
    obtain ⟨hne, hp⟩ := piece_not_strip t ht
    obtain ⟨_, _, ys, y, _, hj, _, hy⟩ := ih (List.cons_ne_nil _ _) h2
    refine ⟨t.piece.head hne, t.piece.tail ++ (sepOf t t2 ++ J (t2 :: r)), t.piece ++ (sepOf t t2 ++ ys), y, ?_, ?_,
      hp _ (List.head_mem hne), hy⟩
    · rw [← List.cons_append, List.cons_head_tail hne]
    · rw [hj, List.append_assoc, List.append_assoc]

theorem dedup_J : ∀ (rest : List Tok) (t : Tok), (∀ u ∈ t :: rest, u.WF) →
    dedupDots (J (t :: rest)) = joinWith '.' ((t :: rest).map Tok.piece) := by
  intro rest
  induction rest with
  | nil =>
    intro t h
    exact dedup_nodot _ (piece_nodot t (h t List.mem_cons_self))
  | cons t2 r ih =>
    intro t h
    obtain ⟨ht, h2⟩ := List.forall_mem_cons.mp h
    obtain ⟨x, xs, _, _, hj, _, hx, _⟩ := J_ends (t2 :: r) (List.cons_ne_nil _ _) h2
    rw [J, List.map_cons, List.map_cons, joinWith, ← List.map_cons, dedup_dotfree _ _ (piece_nodot t ht), ← ih t2 h2]
    congr 1
    unfold sepOf
    split
    · exact dedup_dotdot _
    · rw [hj]; exact dedup_dot_then x xs (ne_dot_of_not_strip hx)

/-- `pre`: the block's `&` / `+`, if any. -/
theorem pnPieces_render (pre : List Char) (t : Tok) (rest : List Tok)
    (hpre : ∀ c ∈ pre, Plain c ∧ isStrip c = true) (hwf : ∀ u ∈ t :: rest, u.WF) :
    pnPieces (pre ++ render false (t :: rest)) = (t :: rest).map Tok.piece := by
  obtain ⟨b, hb, e⟩ := canon_eq rest t false
  obtain ⟨x, xs, ys, y, hj1, hj2, hx, hy⟩ := J_ends (t :: rest) (List.cons_ne_nil _ _) hwf
  have hlead : ∀ c ∈ pre ++ leadOf false t, isStrip c = true := fun c hc =>
    (List.mem_append.mp hc).elim (fun hc => (hpre c hc).2) (leadOf_strip false t c)
  rw [pnPieces, subCross_plains pre _ fun c hc => (hpre c hc).1, subCross_render _ (t :: rest) rfl hwf false, e,
    ← List.append_assoc, ← List.append_assoc, strip_core _ b _ x y xs ys hlead hb hj1 hj2 hx hy, dedup_J rest t hwf]
  exact splitOn_joinWith '.' _ (List.cons_ne_nil _ _) fun p hp => by
    obtain ⟨u, hu, rfl⟩ := List.mem_map.mp hp
    exact piece_nodot u (hwf u hu)

theorem render_chars (l : List Tok) (h : ∀ u ∈ l, u.WF) (prev : Bool) :
    ∀ c ∈ render prev l, c ≠ ',' ∧ c ≠ '&' ∧ c ≠ '+' := by
  have hdots : ∀ n, ∀ c ∈ dots n, c ≠ ',' ∧ c ≠ '&' ∧ c ≠ '+' := fun n c hc =>
    List.eq_of_mem_replicate hc ▸ by decide
  fun_induction render prev l with
  | case1 => exact List.forall_mem_nil _
  | case2 _ sym b a rest ih =>
    obtain ⟨ht, hr⟩ := List.forall_mem_cons.mp h
    refine List.forall_mem_append.mpr
      ⟨hdots b, List.forall_mem_cons.mpr ⟨?_, List.forall_mem_append.mpr ⟨hdots a, ih hr⟩⟩⟩
    rcases Bool.or_eq_true_iff.mp ht with e | e <;> rw [of_decide_eq_true e] <;> decide
  | case3 prev ps rest ih =>
    obtain ⟨ht, hr⟩ := List.forall_mem_cons.mp h
    refine List.forall_mem_append.mpr
      ⟨?_, List.forall_mem_append.mpr ⟨List.forall_mem_map.mpr fun p hp => ?_, ih hr⟩⟩
    · cases prev
      · exact List.forall_mem_nil _
      · exact hdots 1
    · have hb := bellSym (ht.2 p hp)
      exact ⟨hb.ne_comma, fun e => absurd (e ▸ hb.not_strip) (by decide),
        fun e => absurd (e ▸ hb.not_strip) (by decide)⟩

end Wheatley.RoundTrip
