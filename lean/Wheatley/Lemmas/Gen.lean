/-
The row generators: what one `next_row` does (`Gen.next_spec`), what no operation changes (`Gen.cfg`), and the induction
over a history of operations (`Gen.runOps_invariant`; `Gen.runOps_rows` is its instance for a predicate of rows that every
`permute` keeps, from which C01 and C03 get their statements about every row).
-/
import Wheatley.Model.Gen
import Wheatley.Lemmas.Permute
namespace Wheatley

/-- The generator is rule- or notation-driven (its rows come from `permute`, not from a payload). -/
def GenKind.permuting : GenKind → Bool
  | .comp _ => false
  | .placeholder => false
  | _ => true

def Gen.Permuting (g : Gen) : Prop := g.kind.permuting = true

instance (g : Gen) : Decidable g.Permuting := by unfold Gen.Permuting; infer_instance

structure RowInv (stage : Nat) (P : Row → Prop) : Prop where
  step : ∀ r places, P r → P (permute stage r places)

theorem pnArm_eq (c : PNCfg) (g : Gen) :
    ∃ b s q, pnArm c g = { g with hasBob := b, hasSingle := s, callPN := q } := by
  fun_cases pnArm c g <;> exact ⟨_, _, _, rfl⟩

theorem pnArm_bob {c : PNCfg} {g : Gen} {pns : List Places} (hB : g.hasBob = true)
    (hd : callAt c.bobs (leadIndex c g.index) = some pns) : pnArm c g = { g.resetCalls with callPN := pns } := by
  unfold pnArm
  simp only [hB, if_true, hd]

theorem pnArm_single {c : PNCfg} {g : Gen} {pns : List Places}
    (hB : g.hasBob = true → callAt c.bobs (leadIndex c g.index) = none) (hS : g.hasSingle = true)
    (hd : callAt c.singles (leadIndex c g.index) = some pns) : pnArm c g = { g.resetCalls with callPN := pns } := by
  unfold pnArm
  simp only [ite_eq_right_iff.mpr hB, hS, if_true, hd]

theorem pnArm_idle {c : PNCfg} {g : Gen} (hB : g.hasBob = true → callAt c.bobs (leadIndex c g.index) = none)
    (hS : g.hasSingle = true → callAt c.singles (leadIndex c g.index) = none) : pnArm c g = g := by
  unfold pnArm
  simp only [ite_eq_right_iff.mpr hB, ite_eq_right_iff.mpr hS]

theorem dixonStep_eq {c : DixonCfg} {g g' : Gen} {hand : Bool} {r : Row}
    (h : dixonStep c g hand = some (g', r)) :
    (∃ b s, g' = { g with hasBob := b, hasSingle := s }) ∧ ∃ places, r = permute c.stage g.row places := by
  have hg : ∃ b s, (if hand then g else g.resetCalls) = { g with hasBob := b, hasSingle := s } := by
    cases hand <;> exact ⟨_, _, rfl⟩
  revert h
  fun_cases dixonStep c g hand <;> intro h <;> cases h
  · exact ⟨hg, _, rfl⟩
  · exact ⟨hg, _, rfl⟩
  · exact ⟨⟨_, _, rfl⟩, _, rfl⟩
  · exact ⟨⟨_, _, rfl⟩, _, rfl⟩

theorem Gen.next_spec {g g' : Gen} {hand : Bool} {r : Row} {calls : List String}
    (h : g.next hand = .ok g' r calls) :
    (∃ b s q, g' = { g with hasBob := b, hasSingle := s, callPN := q, row := r, index := g.index + 1 }) ∧
    (g.Permuting → ∃ places, r = permute g.stage g.row places) := by
  unfold Gen.Permuting Gen.stage
  revert h
  -- `injection`, not `cases`: in the Plain Hunt leaf the row is a `let` variable, which `cases` will not replace
  fun_cases Gen.next g hand <;> intro h <;> injection h <;> subst_vars
  case case1 c hk g1 r1 hs =>  -- place notation
    cases hs
    obtain ⟨b, s, q, ha⟩ := pnArm_eq c g
    exact ⟨⟨b, s, q.tail, by simp only [ha]⟩, fun _ => ⟨_, by rw [hk]; rfl⟩⟩
  case case2 st hk r1 =>  -- Plain Hunt
    exact ⟨⟨_, _, _, rfl⟩, fun _ => ⟨_, by rw [hk]; rfl⟩⟩
  case case3 c hk g1 r1 hd =>  -- Dixon, a rule applies (`case4`, none does, answers `.keyError`)
    obtain ⟨⟨b, s, rfl⟩, hp⟩ := dixonStep_eq hd
    exact ⟨⟨_, _, _, rfl⟩, fun _ => by rw [hk]; exact hp⟩
  case case5 c hk _ _ _ =>  -- a composition inside its rows
    exact ⟨⟨_, _, _, rfl⟩, fun hp => by rw [hk] at hp; cases hp⟩
  case case6 c hk _ =>  -- a composition past its rows (`case7`, the place holder, answers `.nullRowGen`)
    exact ⟨⟨_, _, _, rfl⟩, fun hp => by rw [hk] at hp; cases hp⟩

theorem Gen.next_pn {g : Gen} {c : PNCfg} (hk : g.kind = .pn c) (hand : Bool) :
    g.next hand =
      .ok { (pnStep c g).1 with row := (pnStep c g).2, index := g.index + 1 } (pnStep c g).2 [] := by
  unfold Gen.next
  rw [hk]

theorem Gen.next_keeps {g g' : Gen} {hand : Bool} {r : Row} {calls : List String}
    (h : g.next hand = .ok g' r calls) :
    g'.row = r ∧ g'.startRow = g.startRow ∧ g'.kind = g.kind := by
  obtain ⟨⟨_, _, _, rfl⟩, -⟩ := Gen.next_spec h
  exact ⟨rfl, rfl, rfl⟩

theorem Gen.next_permuting {g g' : Gen} {hand : Bool} {r : Row} {calls : List String} (hp : g.Permuting)
    (h : g.next hand = .ok g' r calls) : ∃ places, r = permute g.stage g.row places :=
  (Gen.next_spec h).2 hp

def Gen.cfg (g : Gen) : GenKind × Option Row × Row := (g.kind, g.customStart, g.startRow)

theorem Gen.cfg_kind {g g' : Gen} (h : g'.cfg = g.cfg) : g'.kind = g.kind := congrArg (·.1) h
theorem Gen.cfg_customStart {g g' : Gen} (h : g'.cfg = g.cfg) : g'.customStart = g.customStart := congrArg (·.2.1) h
theorem Gen.cfg_startRow {g g' : Gen} (h : g'.cfg = g.cfg) : g'.startRow = g.startRow := congrArg (·.2.2) h

theorem Gen.next_cfg {g g' : Gen} {hand : Bool} {r : Row} {calls : List String}
    (h : g.next hand = .ok g' r calls) : g'.cfg = g.cfg := by
  obtain ⟨⟨_, _, _, rfl⟩, -⟩ := Gen.next_spec h
  rfl

theorem Gen.apply_next (g : Gen) (hand : Bool) :
    (∃ g' r calls, g.next hand = .ok g' r calls ∧ g.apply (.next hand) = (g', some (.row r calls))) ∨
    ∃ e, g.apply (.next hand) = (g, some (.crash e)) := by
  rw [Gen.apply]
  cases g.next hand with
  | ok g' r calls => exact .inl ⟨_, _, _, rfl, rfl⟩
  | nullRowGen => exact .inr ⟨_, rfl⟩
  | keyError => exact .inr ⟨_, rfl⟩

theorem Gen.apply_cfg (g : Gen) (op : GenOp) : (g.apply op).1.cfg = g.cfg := by
  cases op with
  | next hand =>
    rcases g.apply_next hand with ⟨g', r, calls, hn, ha⟩ | ⟨e, ha⟩ <;> rw [ha]
    exact Gen.next_cfg hn
  | _ => rfl

theorem Gen.apply_row {g g' : Gen} {op : GenOp} {r : Row} {calls : List String}
    (h : g.apply op = (g', some (.row r calls))) : g'.row = r := by
  cases op with
  | next hand =>
    rcases g.apply_next hand with ⟨g1, r1, calls1, hn, ha⟩ | ⟨e, ha⟩ <;> rw [ha] at h <;> cases h
    exact (Gen.next_keeps hn).1
  | _ => cases h

theorem Gen.runOps_invariant (I : Gen → Prop) (hI : ∀ g op, I g → I (g.apply op).1) (ops : List GenOp) (g : Gen) :
    I g → I (g.runOps ops).1 ∧ ∀ r ∈ evRows (g.runOps ops).2, ∃ g', I g' ∧ g'.row = r := by
  have step {g : Gen} {op p} (he : g.apply op = p) (h : I g) : I p.1 := he ▸ hI g op h
  fun_induction Gen.runOps g ops with
  | case1 g => exact fun h => ⟨h, nofun⟩  -- no operation left
  | case2 g op ops g' e he => exact fun h => ⟨step he h, nofun⟩  -- an exception ends the run
  | case3 g op ops g' ev hne he g'' evs hrun ih =>  -- an event, then the rest of the run
    intro h
    have ⟨h1, h2⟩ := ih (step he h)
    rw [hrun] at h1 h2
    cases ev with
    | crash e => exact (hne e rfl).elim
    | row r0 c =>
      refine ⟨h1, fun r hr => ?_⟩
      rcases List.mem_cons.mp hr with rfl | hr
      · exact ⟨g', step he h, Gen.apply_row he⟩
      · exact h2 r hr
  | case4 g op ops g' he ih => exact fun h => ih (step he h)  -- no event (`bob`, `single`, `reset`)

theorem Gen.runOps_cfg (ops : List GenOp) (g : Gen) : (g.runOps ops).1.cfg = g.cfg :=
  (Gen.runOps_invariant (·.cfg = g.cfg) (fun g' op h => (Gen.apply_cfg g' op).trans h) ops g rfl).1

theorem Gen.runOps_rows (P : Row → Prop) (ops : List GenOp) (g : Gen) (hp : g.Permuting)
    (hstep : ∀ r places, P r → P (permute g.stage r places)) (hstart : P g.startRow) (hrow : P g.row) :
    ∀ r ∈ evRows (g.runOps ops).2, P r := by
  have hI : ∀ (g1 : Gen) (op : GenOp), g1.cfg = g.cfg ∧ P g1.row →
      (g1.apply op).1.cfg = g.cfg ∧ P (g1.apply op).1.row := by
    intro g1 op ⟨hc, h1⟩
    refine ⟨(Gen.apply_cfg g1 op).trans hc, ?_⟩
    have hk : g1.kind = g.kind := Gen.cfg_kind hc
    cases op with
    | bob | single => exact h1
    | reset => show P g1.startRow; rw [Gen.cfg_startRow hc]; exact hstart
    | next hand =>
      rcases g1.apply_next hand with ⟨g2, r, calls, hn, ha⟩ | ⟨e, ha⟩ <;> rw [ha]
      · obtain ⟨places, rfl⟩ := Gen.next_permuting (by unfold Gen.Permuting; rwa [hk]) hn
        rw [(Gen.next_keeps hn).1]
        unfold Gen.stage; rw [hk]; exact hstep _ _ h1
      · exact h1
  intro r hr
  obtain ⟨g', ⟨-, h⟩, rfl⟩ := (Gen.runOps_invariant _ hI ops g ⟨rfl, hrow⟩).2 r hr
  exact h

/-- To exhibit the generator a constructor builds, evaluate the constructor once, together with what is claimed of
its result. -/
theorem exists_eq_some_and {α : Type} {o : Option α} {P : α → Prop} [DecidablePred P]
    (h : o.any (fun a => decide (P a)) = true) : ∃ a, o = some a ∧ P a := by
  cases o with
  | none => cases h
  | some a => exact ⟨a, rfl, of_decide_eq_true h⟩

/-- Grandsire Triples as `mkGrandsire 7 none` builds it: the witness of the non-vacuity examples of C01, C02, C04 and C05,
so that the constructor (the notation is parsed) is evaluated once. -/
def grandsireTriples : Gen :=
  Gen.init (.pn { stage := 7, methodPN := [[3], [1], [7], [1], [7], [1], [7], [1], [7], [1], [7], [1], [7], [1]],
                  startIndex := 0, bobs := [(12, [[3]])], singles := [(12, [[3], [1, 2, 3]])] }) none (rounds 7)

theorem mkGrandsire_7 : mkGrandsire 7 none = some grandsireTriples := by decide +kernel

theorem mkPN_some {stage : Nat} {method : List Char} {bob single : Option (List (Int × List Char))}
    {idx : Int} {start : Option (List Char)} {g : Gen} (h : mkPN stage method bob single idx start = some g) :
    ∃ mpn b s custom sr, convertPN method = some mpn ∧
      parseCallDict mpn.length (bob.getD defaultBob) = some b ∧
      parseCallDict mpn.length (single.getD defaultSingle) = some s ∧
      g = Gen.init (.pn { stage, methodPN := mpn, startIndex := idx, bobs := b, singles := s }) custom sr := by
  revert h
  fun_cases mkPN stage method bob single idx start <;> intro h <;> cases h
  exact ⟨_, _, _, _, _, ‹_›, ‹_›, ‹_›, rfl⟩

theorem Gen.reset_eq_init (g : Gen) : g.reset = Gen.init g.kind g.customStart g.startRow := rfl

theorem Gen.next_comp {g : Gen} {c : CompCfg} (hk : g.kind = .comp c) (hand : Bool) :
    g.next hand =
      .ok { g with row := (c.rows[g.index]?.map (·.1)).getD (rounds c.stage), index := g.index + 1 }
          ((c.rows[g.index]?.map (·.1)).getD (rounds c.stage))
          ((c.rows[g.index]?.map (·.2)).getD []) := by
  unfold Gen.next
  simp only [hk]
  cases c.rows[g.index]? <;> rfl

theorem startHand_of_kind (g g' : Gen) (h : g'.kind = g.kind) : g'.startHand = g.startHand := by
  unfold Gen.startHand; rw [h]

end Wheatley
