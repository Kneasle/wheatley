/-
The Bot's transitions, each said once: what `generate_next_row`, the end of `start_next_row`, `start_next_row`
itself, the end of `tick`, `look_to_has_been_called` and the handlers do to the Bot and what they put out.  For each
there are up to three kinds of statement: `_cases` (what the result can be), `_frame` / `_eq` (what is written, as a
record update of the Bot, so that a field it leaves alone is `rfl` after one `rw`) and `_outs` / `mem_` (what is put
out).
-/
import Wheatley.Model.Bot
import Wheatley.Lemmas.Gen
namespace Wheatley

theorem ite_cases {α : Type} {P : α → Prop} {c : Prop} [Decidable c] {a b : α} (ha : P a) (hb : P b) :
    P (if c then a else b) := by
  split <;> assumption

theorem ite_cases_of {α : Type} {P : α → Prop} {c : Prop} [Decidable c] {a b : α} (ha : c → P a) (hb : ¬c → P b) :
    P (if c then a else b) := by
  split
  · exact ha ‹c›
  · exact hb ‹¬c›

theorem ite_false_else {X : Prop} [Decidable X] {a : Bool} (h : (if X then false else a) = true) : a = true := by
  split at h
  · cases h
  · exact h

theorem ite_true_else {X : Prop} [Decidable X] {a : Bool} (h : (if X then true else a) = false) : a = false := by
  split at h
  · cases h
  · exact h

def Out.isRing : Out → Bool
  | .ring _ _ => true
  | _ => false

def Out.isCall : Out → Bool
  | .call _ => true
  | _ => false

/-! ### `generate_next_row` -/

/-- The generated row with the opening row's tail behind it for the cover bells. -/
def padded (r opening : Row) : Row := if r.length < opening.length then r ++ opening.drop r.length else r

theorem pad_eq (r op : Row) : padded r op = r ++ op.drop r.length := by
  unfold padded
  split
  · rfl
  · rename_i h
    rw [List.drop_eq_nil_of_le (by omega)]
    simp

theorem padded_ne_nil (r op : Row) (h : op ≠ []) : padded r op ≠ [] := by
  rw [pad_eq]
  cases r with
  | nil => exact h
  | cons a r => exact List.cons_ne_nil _ _

theorem generateNextRow_cases (b : Bot) :
    (b.ringingOpening = true ∧ b.generateNextRow = ({ b with row := b.openingRow }, [])) ∨
    (b.ringingOpening = false ∧ b.ringingRounds = true ∧ b.generateNextRow = ({ b with row := b.rounds }, [])) ∨
    (b.ringingOpening = false ∧ b.ringingRounds = false ∧ ∃ g' r calls, b.gen.next b.hand = .ok g' r calls ∧
      b.generateNextRow = ({ b with gen := g', calls := calls, row := padded r b.openingRow }, [])) ∨
    (b.ringingOpening = false ∧ b.ringingRounds = false ∧ ∃ e, (e = "NullRowGenError" ∨ e = "KeyError") ∧
      (∀ g' r calls, b.gen.next b.hand ≠ .ok g' r calls) ∧ b.generateNextRow = (b, [.crash e])) := by
  unfold Bot.generateNextRow
  cases ho : b.ringingOpening
  · cases hr : b.ringingRounds
    · right; right
      cases hn : b.gen.next b.hand with
      | ok g' r calls => exact Or.inl ⟨rfl, rfl, g', r, calls, rfl, rfl⟩
      | nullRowGen => exact Or.inr ⟨rfl, rfl, _, Or.inl rfl, (fun _ _ _ h => by cases h), rfl⟩
      | keyError => exact Or.inr ⟨rfl, rfl, _, Or.inr rfl, (fun _ _ _ h => by cases h), rfl⟩
    · exact Or.inr (Or.inl ⟨rfl, rfl, rfl⟩)
  · exact Or.inl ⟨rfl, rfl⟩

theorem generateNextRow_plain (b : Bot) (h : b.ringingOpening = true ∨ b.ringingRounds = true) :
    ∃ r, b.generateNextRow = ({ b with row := r }, []) := by
  rcases generateNextRow_cases b with ⟨_, e⟩ | ⟨_, _, e⟩ | ⟨h1, h2, _⟩ | ⟨h1, h2, _⟩
  · exact ⟨_, e⟩
  · exact ⟨_, e⟩
  all_goals
    rw [h1, h2] at h
    exact absurd h (by simp)

theorem generateNextRow_row (b : Bot) :
    (b.ringingOpening = true → (b.generateNextRow).1.row = b.openingRow) ∧
    (b.ringingOpening = false → b.ringingRounds = true → (b.generateNextRow).1.row = b.rounds) := by
  unfold Bot.generateNextRow
  exact ⟨fun h => by simp [h], fun h1 h2 => by simp [h1, h2]⟩

theorem generateNextRow_frame (b : Bot) :
    ∃ g cs r, (b.generateNextRow).1 = { b with gen := g, calls := cs, row := r } ∧ g.cfg = b.gen.cfg := by
  rcases generateNextRow_cases b with ⟨_, h⟩ | ⟨_, _, h⟩ | ⟨_, _, g', r, cs, hn, h⟩ | ⟨_, _, e, _, _, h⟩
  · exact ⟨b.gen, b.calls, _, by rw [h], rfl⟩
  · exact ⟨b.gen, b.calls, _, by rw [h], rfl⟩
  · exact ⟨g', cs, _, by rw [h], Gen.next_cfg hn⟩
  · exact ⟨b.gen, b.calls, b.row, by rw [h], rfl⟩

/-! ### The end of `start_next_row` -/

theorem snrFinish_cases (q : Bot) (o : List Out) :
    (q.isRinging = false ∧ Bot.snrFinish q o = (q, o)) ∨
    (q.isRinging = true ∧ ∃ e, (e = "NullRowGenError" ∨ e = "KeyError") ∧ q.generateNextRow = (q, [.crash e]) ∧
      Bot.snrFinish q o = (q, o ++ [.crash e])) ∨
    (q.isRinging = true ∧ (q.generateNextRow).2 = [] ∧
      Bot.snrFinish q o = ((q.generateNextRow).1, o ++ (q.generateNextRow).1.expectAll)) := by
  unfold Bot.snrFinish
  cases hr : q.isRinging
  · exact Or.inl ⟨rfl, rfl⟩
  · right
    rcases generateNextRow_cases q with ⟨_, h⟩ | ⟨_, _, h⟩ | ⟨_, _, g', r, cs, _, h⟩ | ⟨_, _, e, he, _, h⟩
    · exact Or.inr ⟨rfl, by rw [h], by simp [h]⟩
    · exact Or.inr ⟨rfl, by rw [h], by simp [h]⟩
    · exact Or.inr ⟨rfl, by rw [h], by simp [h]⟩
    · exact Or.inl ⟨rfl, e, he, h, by simp [h]⟩

theorem snrFinish_fst (q : Bot) (o : List Out) :
    (Bot.snrFinish q o).1 = if q.isRinging then (q.generateNextRow).1 else q := by
  rcases snrFinish_cases q o with ⟨hr, e⟩ | ⟨hr, _, _, hg, e⟩ | ⟨hr, _, e⟩ <;> rw [e, hr]
  · rfl
  · rw [hg]; rfl
  · rfl

theorem snrFinish_frame (q : Bot) (o : List Out) :
    ∃ g cs r, (Bot.snrFinish q o).1 = { q with gen := g, calls := cs, row := r } ∧ g.cfg = q.gen.cfg := by
  rw [snrFinish_fst]
  split
  · exact generateNextRow_frame q
  · exact ⟨q.gen, q.calls, q.row, rfl, rfl⟩

theorem snrFinish_opening {q : Bot} (o : List Out) (h1 : q.isRinging = true) (h2 : q.ringingOpening = true) :
    Bot.snrFinish q o = ({ q with row := q.openingRow }, o ++ ({ q with row := q.openingRow } : Bot).expectAll) := by
  simp [Bot.snrFinish, Bot.generateNextRow, h1, h2]

theorem snrFinish_plain (q : Bot) (o : List Out) (h : q.ringingOpening = true ∨ q.ringingRounds = true) :
    Bot.snrFinish q o = (q, o) ∨
      ∃ r, Bot.snrFinish q o = ({ q with row := r }, o ++ ({ q with row := r } : Bot).expectAll) := by
  obtain ⟨r, e⟩ := generateNextRow_plain q h
  rcases snrFinish_cases q o with ⟨_, e1⟩ | ⟨_, _, _, hg, _⟩ | ⟨_, _, e1⟩
  · exact Or.inl e1
  · exact absurd (congrArg Prod.snd (hg.symm.trans e)) (by simp)
  · exact Or.inr ⟨r, by rw [e1, e]⟩

theorem mem_snrFinish {q : Bot} {o4 : List Out} {o : Out} (h : o ∈ (Bot.snrFinish q o4).2) :
    o ∈ o4 ∨ (∃ e, (e = "NullRowGenError" ∨ e = "KeyError") ∧ o = .crash e) ∨
      o ∈ (Bot.snrFinish q o4).1.expectAll := by
  rcases snrFinish_cases q o4 with ⟨_, e⟩ | ⟨_, c, hc, _, e⟩ | ⟨_, _, e⟩ <;> rw [e] at h ⊢
  · exact Or.inl h
  · exact (List.mem_append.mp h).imp_right fun h => Or.inl ⟨c, hc, by simpa using h⟩
  · exact (List.mem_append.mp h).imp_right Or.inr

theorem mem_expectAll {b : Bot} {o : Out} (h : o ∈ b.expectAll) :
    ∃ bell i, o = .rExpect bell b.rowNumber i b.hand ∧ b.row[i]? = some bell ∧ b.userAssigned bell = true := by
  unfold Bot.expectAll at h
  simp only [List.mem_map, List.mem_filter, Prod.exists] at h
  obtain ⟨bell, i, ⟨hm, hu⟩, rfl⟩ := h
  exact ⟨bell, i, rfl, List.mk_mem_zipIdx_iff_getElem?.mp hm, hu⟩

theorem expectAll_no_crash (b : Bot) (e : String) : Out.crash e ∉ b.expectAll :=
  fun h => by obtain ⟨_, _, h1, _⟩ := mem_expectAll h; cases h1

theorem mem_makeCalls {b : Bot} {cs : List String} {o : Out} (h : o ∈ b.makeCalls cs) :
    ∃ c, o = .call c ∧ c ∈ cs ∧ b.callComps = true := by
  obtain ⟨hc, h⟩ := List.mem_ite_nil_right.mp h
  obtain ⟨c, hm, rfl⟩ := List.mem_map.mp h
  exact ⟨c, rfl, hm, hc⟩

/-! ### `start_next_row` -/

theorem snrPrep_eq (b : Bot) : b.snrPrep = { b with place := 0, calls := b.snrPrep.calls } := by
  unfold Bot.snrPrep; cases b.roundsLeft <;> rfl

theorem snrPrep_calls (b : Bot) :
    b.snrPrep.calls = match b.roundsLeft with | some k => earlyAt b.gen k | none => [] := by
  unfold Bot.snrPrep; cases b.roundsLeft <;> rfl

theorem ctlStep_ok {c : Ctl} {i : CtlIn} {c' : Ctl} {s : Bool} (h : ctlStep c i = .ok c' s) :
    c' = ctlNext c i ∧ s = startsNow c := by
  unfold ctlStep at h
  split at h
  · cases h
  · injection h with h1 h2; exact ⟨h1.symm, h2.symm⟩

theorem ctlStep_first {c : Ctl} {i : CtlIn} (hf : i.isFirst = true) (h2 : c.ringingOpening = true)
    (h3 : c.shouldStand = false) (h4 : c.rowsLeft = none) (h0 : c.roundsLeft ≠ some 0) :
    ctlStep c i = .ok
      { c with rowNumber := 0, roundsLeft := (match c.roundsLeft with | some k => some (k - 1) | none => none) }
      false := by
  simp [ctlStep, assertFails, ctlNext, nextRowNumber, startsNow, h0, hf, h2, h3, h4]
  rfl  -- what is left is the `match` of `ctlNext` against the one written above

theorem ctlNext_roundsLeft (c : Ctl) (i : CtlIn) (k : Nat) :
    (ctlNext c i).roundsLeft = some k ↔ c.roundsLeft = some (k + 1) := by
  show (if startsNow c = true then none else match c.roundsLeft with | some k => some (k - 1) | none => none) = some k ↔ _
  unfold startsNow
  cases c.roundsLeft with
  | none => simp
  | some j => cases j <;> simp

/-- The Bot between the control step and the choice of the coming row. -/
def Bot.boundary (b : Bot) (c : Ctl) (started : Bool) : Bot :=
  (if started then b.snrPrep.resetGen else b.snrPrep).withCtl c

/-- The `Stand` called when the method is due to start on a tower too small for it. -/
def Bot.standCall (b : Bot) (started : Bool) : List Out :=
  if started && !(b.checkNumberOfBells b.gen) then b.makeCalls ["Stand"] else []

theorem mem_standCall {b : Bot} {s : Bool} {o : Out} (h : o ∈ b.standCall s) :
    o = .call "Stand" ∧ b.callComps = true := by
  obtain ⟨c, rfl, hc, hcc⟩ := mem_makeCalls (List.mem_ite_nil_right.mp h).2
  exact ⟨by rw [List.mem_singleton.mp hc], hcc⟩

theorem startNextRow_cases (b : Bot) (f : Bool) :
    (ctlStep b.ctl (b.ctlIn f) = .crash ∧
      b.startNextRow f = ({ b with place := 0, calls := b.snrPrep.calls }, [.crash "AssertionError"])) ∨
    (∃ c s, ctlStep b.ctl (b.ctlIn f) = .ok c s ∧
      b.startNextRow f = Bot.snrFinish (b.boundary c s) (b.standCall s)) := by
  unfold Bot.startNextRow
  cases h : ctlStep b.ctl (b.ctlIn f) with
  | crash => exact Or.inl ⟨rfl, by rw [← snrPrep_eq]⟩
  | ok c s => exact Or.inr ⟨c, s, rfl, rfl⟩

theorem startNextRow_ok {b : Bot} {f : Bool} {c : Ctl} {s : Bool} (h : ctlStep b.ctl (b.ctlIn f) = .ok c s) :
    b.startNextRow f = Bot.snrFinish (b.boundary c s) (b.standCall s) := by
  unfold Bot.startNextRow
  rw [h]
  rfl

theorem boundary_eq (b : Bot) (c : Ctl) (s : Bool) :
    b.boundary c s =
      { b.withCtl c with place := 0, gen := bif s then b.gen.reset else b.gen, calls := b.snrPrep.calls } := by
  unfold Bot.boundary
  rw [snrPrep_eq]
  cases s <;> rfl

theorem startNextRow_frame (b : Bot) (f : Bool) :
    ∃ c g cs r, (b.startNextRow f).1 = { b.withCtl c with place := 0, gen := g, calls := cs, row := r } ∧
      g.cfg = b.gen.cfg := by
  rcases startNextRow_cases b f with ⟨_, h⟩ | ⟨c, s, _, h⟩
  · exact ⟨b.ctl, b.gen, b.snrPrep.calls, b.row, by rw [h]; rfl, rfl⟩
  · obtain ⟨g, cs, r, h2, hg⟩ := snrFinish_frame (b.boundary c s) (b.standCall s)
    refine ⟨c, g, cs, r, by rw [h, h2, boundary_eq], ?_⟩
    rw [hg, boundary_eq]
    cases s <;> rfl

theorem startNextRow_kind (b : Bot) (f : Bool) : (b.startNextRow f).1.gen.kind = b.gen.kind := by
  obtain ⟨c, g, cs, r, e, hg⟩ := startNextRow_frame b f
  rw [e]; exact Gen.cfg_kind hg

/-- **Refinement**: `start_next_row` moves the control fields exactly as the control machine. -/
theorem startNextRow_ctl (b : Bot) (isFirst : Bool) (c : Ctl) (started : Bool)
    (h : ctlStep b.ctl (b.ctlIn isFirst) = .ok c started) : (b.startNextRow isFirst).1.ctl = c := by
  obtain ⟨g, cs, r, e, -⟩ := snrFinish_frame (b.boundary c started) (b.standCall started)
  rw [startNextRow_ok h, e]
  rfl

theorem startNextRow_crash (b : Bot) (isFirst : Bool)
    (h : ctlStep b.ctl (b.ctlIn isFirst) = .crash) :
    (b.startNextRow isFirst).2 = [.crash "AssertionError"] := by
  unfold Bot.startNextRow
  rw [h]

theorem startNextRow_outs (b : Bot) (f : Bool) : ∀ o ∈ (b.startNextRow f).2,
    (o = .crash "AssertionError" ∧ ctlStep b.ctl (b.ctlIn f) = .crash) ∨
    (o = .call "Stand" ∧ b.callComps = true) ∨
    (∃ e, (e = "NullRowGenError" ∨ e = "KeyError") ∧ o = .crash e) ∨
    o ∈ (b.startNextRow f).1.expectAll := by
  intro o ho
  rcases startNextRow_cases b f with ⟨hc, h⟩ | ⟨c, s, _, h⟩ <;> rw [h] at ho ⊢
  · exact Or.inl ⟨by simpa using ho, hc⟩
  · exact Or.inr ((mem_snrFinish ho).imp_left mem_standCall)

theorem startNextRow_crash_mem {b : Bot} {f : Bool} {e : String} (h : Out.crash e ∈ (b.startNextRow f).2) :
    (e = "AssertionError" ∧ ctlStep b.ctl (b.ctlIn f) = .crash) ∨ e = "NullRowGenError" ∨ e = "KeyError" := by
  rcases startNextRow_outs b f _ h with ⟨h1, hc⟩ | ⟨h1, _⟩ | ⟨_, he, h1⟩ | hm
  · injection h1 with h1; exact Or.inl ⟨h1, hc⟩
  · cases h1
  · injection h1 with h1; exact Or.inr (h1 ▸ he)
  · obtain ⟨_, _, h1, _⟩ := mem_expectAll hm; cases h1

theorem startNextRow_no_ring (b : Bot) (f : Bool) : ∀ o ∈ (b.startNextRow f).2, o.isRing = false := by
  intro o ho
  rcases startNextRow_outs b f o ho with ⟨rfl, _⟩ | ⟨rfl, _⟩ | ⟨_, _, rfl⟩ | ho
  · rfl
  · rfl
  · rfl
  · obtain ⟨_, _, rfl, _⟩ := mem_expectAll ho; rfl

/-! ### The end of `tick` -/

/-- Wheatley's own strike of the turn's bell, if the bell is its own and the view's stroke is the row's. -/
def Bot.strike (b : Bot) (bell : Nat) (uc : Bool) : List Out := if uc then [] else b.ringBell bell

/-- The row's calls, made with its first blow. -/
def Bot.leadCalls (b : Bot) : List Out := if b.place == 0 then b.makeCalls b.calls else []

theorem mem_strike {b : Bot} {bell : Nat} {uc : Bool} {o : Out} (h : o ∈ b.strike bell uc) :
    ∃ s, o = .ring bell s ∧ uc = false ∧ b.tower.getStroke bell = some s ∧ s = b.hand := by
  obtain ⟨hu, h⟩ := List.mem_ite_nil_left.mp h
  unfold Bot.ringBell at h
  cases hs : b.tower.getStroke bell with
  | none => rw [hs] at h; cases h
  | some s =>
    rw [hs] at h
    obtain ⟨he, h⟩ := List.mem_ite_nil_right.mp h
    exact ⟨s, List.mem_singleton.mp h, by simpa using hu, rfl, by simpa using he⟩

theorem mem_leadCalls {b : Bot} {o : Out} (h : o ∈ b.leadCalls) :
    ∃ c, o = .call c ∧ c ∈ b.calls ∧ b.callComps = true ∧ b.place = 0 := by
  obtain ⟨hp, h⟩ := List.mem_ite_nil_right.mp h
  obtain ⟨c, ho, hc, hcc⟩ := mem_makeCalls h
  exact ⟨c, ho, hc, hcc, by simpa using hp⟩

theorem tickEnd_cases (b : Bot) (bell : Nat) (uc : Bool) :
    (b.place + 1 < min b.n b.row.length ∧
      b.tickEnd bell uc = ({ b with place := b.place + 1 }, b.strike bell uc ++ b.leadCalls)) ∨
    (min b.n b.row.length ≤ b.place + 1 ∧
      b.tickEnd bell uc = ((({ b with place := b.place + 1 } : Bot).startNextRow false).1,
        b.strike bell uc ++ b.leadCalls ++ (({ b with place := b.place + 1 } : Bot).startNextRow false).2)) := by
  by_cases h : min b.n b.row.length ≤ b.place + 1
  · exact Or.inr ⟨h, if_pos h⟩
  · exact Or.inl ⟨Nat.lt_of_not_le h, if_neg h⟩

theorem tickEnd_fst {P : Bot → Prop} (b : Bot) (bell : Nat) (uc : Bool) (mid : P { b with place := b.place + 1 })
    (bnd : P (({ b with place := b.place + 1 } : Bot).startNextRow false).1) : P (b.tickEnd bell uc).1 := by
  rcases tickEnd_cases b bell uc with ⟨_, e⟩ | ⟨_, e⟩ <;> rw [e]
  · exact mid
  · exact bnd

theorem mem_tickEnd {b : Bot} {bell : Nat} {uc : Bool} {o : Out} (h : o ∈ (b.tickEnd bell uc).2) :
    o ∈ b.strike bell uc ∨ o ∈ b.leadCalls ∨ o ∈ (({ b with place := b.place + 1 } : Bot).startNextRow false).2 := by
  rcases tickEnd_cases b bell uc with ⟨_, e⟩ | ⟨_, e⟩ <;> rw [e] at h <;> simp only [List.mem_append] at h
  · exact h.imp id Or.inl
  · exact or_assoc.mp h

theorem tickEnd_crash_mem {b : Bot} {bell : Nat} {uc : Bool} {e : String} (h : Out.crash e ∈ (b.tickEnd bell uc).2) :
    Out.crash e ∈ (({ b with place := b.place + 1 } : Bot).startNextRow false).2 := by
  rcases mem_tickEnd h with h | h | h
  · obtain ⟨_, h1, _⟩ := mem_strike h; cases h1
  · obtain ⟨_, h1, _⟩ := mem_leadCalls h; cases h1
  · exact h

theorem tickEnd_outs (b : Bot) (bell : Nat) (uc : Bool) : ∀ o ∈ (b.tickEnd bell uc).2,
    (∃ s, o = .ring bell s) ∨ (∃ c, o = .call c ∧ b.callComps = true) ∨ (∃ e, o = .crash e) ∨
    ∃ x place hand, o = .rExpect x (b.rowNumber + 1) place hand := by
  intro o ho
  rcases mem_tickEnd ho with ho | ho | ho
  · obtain ⟨s, rfl, _⟩ := mem_strike ho; exact .inl ⟨s, rfl⟩
  · obtain ⟨c, rfl, _, hc, _⟩ := mem_leadCalls ho; exact .inr (.inl ⟨c, rfl, hc⟩)
  · rcases startNextRow_outs _ false o ho with ⟨rfl, _⟩ | ⟨rfl, hc⟩ | ⟨e, _, rfl⟩ | hexp
    · exact .inr (.inr (.inl ⟨_, rfl⟩))
    · exact .inr (.inl ⟨_, rfl, hc⟩)
    · exact .inr (.inr (.inl ⟨e, rfl⟩))
    · -- a boundary that sets expectations has passed the control machine, which numbers the row it begins
      obtain ⟨x, place, rfl, _⟩ := mem_expectAll hexp
      rcases startNextRow_cases ({ b with place := b.place + 1 } : Bot) false with ⟨_, e⟩ | ⟨c, s, hstep, _⟩
      · rw [e] at ho; cases List.mem_singleton.mp ho
      · obtain ⟨rfl, -⟩ := ctlStep_ok hstep
        have hrow : (({ b with place := b.place + 1 } : Bot).startNextRow false).1.rowNumber = b.rowNumber + 1 :=
          congrArg Ctl.rowNumber (startNextRow_ctl _ false _ _ hstep)
        exact .inr (.inr (.inr ⟨x, place, _, by rw [hrow]⟩))

theorem tickEnd_frame (b : Bot) (bell : Nat) (uc : Bool) :
    ∃ c p g cs r, (b.tickEnd bell uc).1 = { b.withCtl c with place := p, gen := g, calls := cs, row := r } ∧
      g.cfg = b.gen.cfg := by
  rcases tickEnd_cases b bell uc with ⟨_, h⟩ | ⟨_, h⟩
  · exact ⟨b.ctl, b.place + 1, b.gen, b.calls, b.row, by rw [h]; rfl, rfl⟩
  · obtain ⟨c, g, cs, r, h1, hg⟩ := startNextRow_frame ({ b with place := b.place + 1 } : Bot) false
    exact ⟨c, 0, g, cs, r, by rw [h, h1]; rfl, hg⟩

theorem tickEnd_kind (b : Bot) (bell : Nat) (uc : Bool) : (b.tickEnd bell uc).1.gen.kind = b.gen.kind := by
  obtain ⟨c, p, g, cs, r, e, hg⟩ := tickEnd_frame b bell uc
  rw [e]; exact Gen.cfg_kind hg

/-! ### `look_to_has_been_called` -/

/-- The Bot as row 0 of a touch begins: at place 0 of the opening row, a countdown to the method that is running
moved on by one row, the calls that row has to make early picked. -/
def Bot.rowZero (d : Bot) : Bot :=
  { d with
    place := 0, rowNumber := 0, row := d.openingRow,
    calls := match d.roundsLeft with | some k => earlyAt d.gen k | none => [],
    roundsLeft := match d.roundsLeft with | some k => some (k - 1) | none => none }

theorem startNextRow_first {d : Bot} (h1 : d.isRinging = true) (h2 : d.ringingOpening = true)
    (h3 : d.shouldStand = false) (h4 : d.rowsLeftBeforeRounds = none) (h0 : d.roundsLeft ≠ some 0) :
    d.startNextRow true = (d.rowZero, d.rowZero.expectAll) := by
  rw [startNextRow_ok (ctlStep_first rfl h2 h3 h4 h0), boundary_eq, snrPrep_calls]
  -- no `Stand` is called at a first boundary (`standCall false` is `[]`), and the record left is `d.rowZero`
  exact snrFinish_opening _ h1 h2

/-- The Bot as the first row of a touch begins. -/
def Bot.firstRow (b : Bot) : Bot := b.armLookTo.rowZero

/-- The first boundary of a touch: both up-down-in counters are positive, so the method is not due. -/
theorem arm_start (b : Bot) : b.armLookTo.startNextRow true = (b.firstRow, b.firstRow.expectAll) := by
  refine startNextRow_first rfl rfl rfl rfl ?_
  simp only [Bot.armLookTo]
  cases b.upDownIn
  · simp
  · cases (b.nextGen.getD b.gen).startHand <;> decide

theorem firstRow_roundsLeft (b : Bot) :
    b.firstRow.roundsLeft =
      if b.upDownIn then some (if (b.nextGen.getD b.gen).startHand then 1 else 2) else none := by
  dsimp only [Bot.firstRow, Bot.rowZero, Bot.armLookTo]
  cases b.upDownIn <;> cases (b.nextGen.getD b.gen).startHand <;> rfl

theorem lookTo_cases (b : Bot) :
    (b.openingRow = [] ∧ b.lookTo = (b, [.rReturn, .crash "IndexError"])) ∨
    (∃ treble rest, b.openingRow = treble :: rest ∧
      b.lookTo = (b.firstRow, .rReturn :: .rInit b.n (b.userAssigned treble) (b.rounds.filter b.userAssigned).length ::
        b.firstRow.expectAll)) := by
  unfold Bot.lookTo
  cases h : b.openingRow with
  | nil => exact Or.inl ⟨rfl, rfl⟩
  | cons t rest => exact Or.inr ⟨t, rest, rfl, by simp only [arm_start]; rfl⟩

theorem lookTo_fst {P : Bot → Prop} (b : Bot) (empty : b.openingRow = [] → P b) (first : P b.firstRow) :
    P b.lookTo.1 := by
  rcases lookTo_cases b with ⟨h, e⟩ | ⟨_, _, _, e⟩ <;> rw [e]
  · exact empty h
  · exact first

/-- The one exception `look_to_has_been_called` can raise: the treble of an empty opening row. -/
theorem lookTo_crash_mem {b : Bot} {e : String} (h : Out.crash e ∈ b.lookTo.2) :
    e = "IndexError" ∧ b.openingRow = [] := by
  rcases lookTo_cases b with ⟨ho, e'⟩ | ⟨_, _, _, e'⟩ <;> rw [e'] at h <;>
    simp only [List.mem_cons, reduceCtorEq, false_or] at h
  · exact ⟨by simpa using h, ho⟩
  · exact absurd h (expectAll_no_crash _ e)

/-! ### The handlers -/

theorem onSizeChange_bad {b : Bot} (h : startingRow b.n b.gen.customStart = none) :
    b.onSizeChange = (b, [.crash "ValueError"]) := by
  unfold Bot.onSizeChange
  rw [h]

theorem onSizeChange_ok {b : Bot} {op : Row} (h : startingRow b.n b.gen.customStart = some op) :
    b.onSizeChange = ({ b with openingRow := op, rounds := rounds b.n,
                               nextGen := b.nextGen.filter (fun g => g.stage != 0 && !(b.n < g.stage)) }, []) := by
  unfold Bot.onSizeChange
  rw [h]
  cases b.nextGen <;> rfl

theorem onGo_cases (b : Bot) :
    (b.ringingRounds = false ∧ b.ringingOpening = false ∧ b.onGo = (b, [])) ∨
    ((b.ringingRounds = true ∨ b.ringingOpening = true) ∧ ∃ k,
      b.onGo = ({ b with roundsLeft := some k }, ({ b with roundsLeft := some k } : Bot).makeCalls (missedEarly b.gen k))) := by
  unfold Bot.onGo
  cases hr : b.ringingRounds <;> cases ho : b.ringingOpening
  · exact Or.inl ⟨rfl, rfl, rfl⟩
  all_goals exact Or.inr ⟨by simp, _, rfl⟩

theorem onSetting_frame (b : Bot) (k : String) (v : SVal) :
    (∃ u s c, (b.onSetting k v).1 = { b with upDownIn := u, stopAtRounds := s, callComps := c }) ∧
    ∀ o ∈ (b.onSetting k v).2, o = .rSetting k v := by
  unfold Bot.onSetting
  by_cases h1 : (k == "use_up_down_in") = true
  · rw [if_pos h1]; cases toBool? v <;> exact ⟨⟨_, _, _, rfl⟩, fun o ho => by cases ho⟩
  rw [if_neg h1]
  by_cases h2 : (k == "stop_at_rounds") = true
  · rw [if_pos h2]; cases toBool? v <;> exact ⟨⟨_, _, _, rfl⟩, fun o ho => by cases ho⟩
  rw [if_neg h2]
  by_cases h3 : (k == "call_composition") = true
  · rw [if_pos h3]; cases toBool? v <;> exact ⟨⟨_, _, _, rfl⟩, fun o ho => by cases ho⟩
  rw [if_neg h3]
  exact ⟨⟨_, _, _, rfl⟩, fun o ho => List.mem_singleton.mp ho⟩

theorem foldSettings_frame (b : Bot) (kvs : List (String × SVal)) :
    (∃ u s c, (foldSettings b kvs).1 = { b with upDownIn := u, stopAtRounds := s, callComps := c }) ∧
    ∀ o ∈ (foldSettings b kvs).2, ∃ k v, o = .rSetting k v := by
  induction kvs generalizing b with
  | nil => exact ⟨⟨_, _, _, rfl⟩, fun o ho => by cases ho⟩
  | cons kv rest ih =>
    obtain ⟨⟨u, s, c, e1⟩, o1⟩ := onSetting_frame b kv.1 kv.2
    obtain ⟨⟨u', s', c', e2⟩, o2⟩ := ih (b.onSetting kv.1 kv.2).1
    simp only [foldSettings]
    refine ⟨⟨u', s', c', by rw [e2, e1]⟩, fun o ho => ?_⟩
    rcases List.mem_append.mp ho with ho | ho
    · exact ⟨_, _, o1 o ho⟩
    · exact o2 o ho

/-- The Bot once the tower's own handler has brought the view up to date. -/
def Bot.see (b : Bot) (m : Msg) : Bot := { b with tower := b.tower.apply m }

theorem Tower.apply_size (t : Tower) (m : Msg) :
    (t.apply m).size = match m with
      | .bellRung st _ => st.length
      | .globalState st => st.length
      | .sizeChange n => n
      | _ => t.size := by
  cases m with
  | sizeChange n =>
    simp only [Tower.apply]
    split
    · simp [Tower.size]
    · rename_i h; exact (by simpa using h : n = t.size).symm
  | assign bell user => simp only [Tower.apply]; split <;> rfl
  | _ => rfl

/-- The Bot as `wait_loaded` leaves it: freshly built, the first global state taken in. -/
theorem loaded_eq (g : Gen) (u s c : Bool) (n : Option String) (id : Option Nat) (st : List Bool) {op : Row}
    (h : startingRow st.length g.customStart = some op) :
    ((Bot.init g u s c n id).onMsg (.globalState st)).1 =
      { (Bot.init g u s c n id).see (.globalState st) with openingRow := op, rounds := rounds st.length } :=
  -- a fresh Bot has nothing queued, so the filter on `nextGen` disappears by computation
  congrArg Prod.fst (onSizeChange_ok (b := (Bot.init g u s c n id).see (.globalState st)) h)

/-- The table of the handlers in closed form: every row a record update of `b` (or of `b.see m` where the view
changes) with its outputs.  `b.Handles m p` bounds what `b.onMsg m` can be from above: `ignore` stands for any message
(a Go during the method, a refused Look To, a selection or setting outside server mode, a message the Bot has no
callback for), without its condition. -/
inductive Bot.Handles (b : Bot) : Msg → Bot × List Out → Prop
  | ignore (m : Msg) : Handles b m (b.see m, [])
  | strike (st : List Bool) (who : Nat) (s : Bool) (hs : (b.see (.bellRung st who)).tower.getStroke who = some s)
      (hu : (b.see (.bellRung st who)).userAssigned who = true) :
      Handles b (.bellRung st who) (b.see (.bellRung st who), [.rBellRing who (!s)])
  /-- a global state, or a size message with a new size, when the custom start row repeats a bell -/
  | badStart (m : Msg) (hm : (∃ st, m = .globalState st) ∨ ∃ n, m = .sizeChange n ∧ n ≠ b.n)
      (h : startingRow (b.see m).n b.gen.customStart = none) : Handles b m (b.see m, [.crash "ValueError"])
  | resize (m : Msg) (hm : (∃ st, m = .globalState st) ∨ ∃ n, m = .sizeChange n ∧ n ≠ b.n) (op : Row)
      (h : startingRow (b.see m).n b.gen.customStart = some op) :
      Handles b m ({ b.see m with
        openingRow := op, rounds := Wheatley.rounds (b.see m).n,
        nextGen := b.nextGen.filter (fun g => g.stage != 0 && !((b.see m).n < g.stage)) }, [])
  | lookTo (c : String) (hc : c = Generated.call_LOOK_TO)
      (hg : (b.checkStartingRow && b.checkNumberOfBells (b.nextGen.getD b.gen)) = true) (treble : Nat) (rest : Row)
      (h : b.openingRow = treble :: rest) :
      Handles b (.call c) (b.firstRow, .rReturn ::
        .rInit b.n (b.userAssigned treble) (b.rounds.filter b.userAssigned).length :: b.firstRow.expectAll)
  | go (c : String) (hc : c = Generated.call_GO) (h : b.ringingRounds = true ∨ b.ringingOpening = true) :
      Handles b (.call c) ({ b with roundsLeft := some (if b.hand == b.gen.startHand then 1 else 0) },
        b.makeCalls (missedEarly b.gen (if b.hand == b.gen.startHand then 1 else 0)))
  | bob (c : String) (hc : c = Generated.call_BOB) : Handles b (.call c) ({ b with gen := b.gen.setBob }, [])
  | single (c : String) (hc : c = Generated.call_SINGLE) : Handles b (.call c) ({ b with gen := b.gen.setSingle }, [])
  | thatsAll (c : String) (hc : c = Generated.call_THATS_ALL) :
      Handles b (.call c) ({ b with rowsLeftBeforeRounds := some 1 }, [])
  | rounds (c : String) (hc : c = Generated.call_ROUNDS) : Handles b (.call c) ({ b with ringingOpening := true }, [])
  | stand (c : String) (hc : c = Generated.call_STAND) : Handles b (.call c) ({ b with shouldStand := true }, [])
  | settings (kvs : List (String × SVal)) (hs : b.serverMode = true) (u s c : Bool) (outs : List Out)
      (ho : ∀ o ∈ outs, ∃ k v, o = .rSetting k v) :
      Handles b (.setting kvs) ({ b with upDownIn := u, stopAtRounds := s, callComps := c }, outs)
  | select (g : Gen) (hs : b.serverMode = true) : Handles b (.rowGen (some g)) ({ b with nextGen := some g }, [])
  | stop (hs : b.serverMode = true) :
      Handles b .stopTouch ({ b with isRinging := false }, [.setIsRinging false, .rReturn])

theorem Bot.Handles.orIgnore {b : Bot} {m : Msg} {c : Prop} [Decidable c] {p : Bot × List Out}
    (h : c → b.Handles m p) : b.Handles m (if c then p else (b.see m, [])) := by
  split
  · exact h ‹c›
  · exact .ignore m

/-- One link of `on_call`'s chain of comparisons (proved once for an `if` between variables: `split` on the chain
itself is very slow to check). -/
theorem Bot.Handles.callElse {b : Bot} {c k : String} {p q : Bot × List Out}
    (h : c = k → b.Handles (.call c) p) (h' : b.Handles (.call c) q) :
    b.Handles (.call c) (if c == k then p else q) := by
  split
  · exact h (by simpa using ‹(c == k) = true›)
  · exact h'

theorem onSizeChange_handles (b : Bot) (m : Msg) (hm : (∃ st, m = .globalState st) ∨ ∃ n, m = .sizeChange n ∧ n ≠ b.n) :
    b.Handles m (b.see m).onSizeChange := by
  cases h : startingRow (b.see m).n b.gen.customStart with
  | none => rw [onSizeChange_bad h]; exact .badStart m hm h
  | some op => rw [onSizeChange_ok h]; exact .resize m hm op h

theorem onLookTo_handles (b : Bot) (c : String) (hc : c = Generated.call_LOOK_TO) :
    b.Handles (.call c) b.onLookTo := by
  refine .orIgnore fun hg => ?_
  rcases lookTo_cases b with ⟨h, -⟩ | ⟨t, rest, h, e⟩
  · -- the gate asks for an opening row as long as the tower and a stage within it: the tower is not empty
    simp only [Bot.checkStartingRow, Bot.checkNumberOfBells, h, List.length_nil, Bool.and_eq_true, beq_iff_eq,
      bne_iff_ne, Bool.not_eq_true', decide_eq_false_iff_not] at hg
    omega
  · rw [e]; exact .lookTo c hc hg t rest h

theorem onGo_handles (b : Bot) (c : String) (hc : c = Generated.call_GO) : b.Handles (.call c) b.onGo :=
  .orIgnore fun h => .go c hc (by simpa using h)

theorem onCall_handles (b : Bot) (c : String) : b.Handles (.call c) (b.onCall c) :=
  .callElse (onLookTo_handles b c) <|
  .callElse (onGo_handles b c) <|
  .callElse (.bob c) <|
  .callElse (.single c) <|
  .callElse (.thatsAll c) <|
  .callElse (.rounds c) <|
  .callElse (.stand c) <|
  .ignore _

/-- To walk the table: `have hr := onMsg_handles b m; generalize b.onMsg m = p at hr; induction hr with ...` -
`induction`, not `cases`: message and result are variables by then, so no equation between records has to be
solved. -/
theorem onMsg_handles (b : Bot) (m : Msg) : b.Handles m (b.onMsg m) := by
  unfold Bot.onMsg
  cases m with
  | bellRung st who =>
    simp only []
    cases hs : ({ b with tower := b.tower.apply (.bellRung st who) } : Bot).tower.getStroke who with
    | none => exact .ignore _
    | some s => exact .orIgnore fun hu => .strike st who s hs hu
  | globalState st => exact onSizeChange_handles b _ (Or.inl ⟨st, rfl⟩)
  | sizeChange n =>
    exact .orIgnore fun h => onSizeChange_handles b _ (Or.inr ⟨n, rfl, by simpa using h⟩)
  | call c => exact onCall_handles b c
  | setting kvs =>
    refine .orIgnore fun hs => ?_
    obtain ⟨⟨u, s, c, e⟩, ho⟩ := foldSettings_frame b kvs
    show b.Handles _ ((foldSettings b kvs).1, (foldSettings b kvs).2)
    rw [e]
    exact .settings kvs hs u s c _ ho
  | rowGen g =>
    refine .orIgnore fun hs => ?_
    cases g with
    | none => exact .ignore _
    | some g => exact .select g hs
  | stopTouch => exact .orIgnore fun hs => .stop hs
  | userEntered | userList | assign | userLeft => exact .ignore _

theorem onMsg_outs (b : Bot) (m : Msg) : ∀ o ∈ (b.onMsg m).2,
    (∃ st who hand, m = .bellRung st who ∧ o = .rBellRing who hand) ∨
    (o = .crash "ValueError" ∧ ((∃ st, m = .globalState st) ∨ ∃ n, m = .sizeChange n)) ∨
    (m = .call Generated.call_LOOK_TO ∧
      (o = .rReturn ∨ (∃ n ut k, o = .rInit n ut k) ∨ o ∈ b.firstRow.expectAll)) ∨
    (m = .call Generated.call_GO ∧ ∃ c, o = .call c ∧ b.callComps = true) ∨
    (∃ kvs k v, m = .setting kvs ∧ o = .rSetting k v) ∨
    (m = .stopTouch ∧ (o = .setIsRinging false ∨ o = .rReturn)) := by
  intro o ho
  have hr := onMsg_handles b m
  generalize b.onMsg m = p at hr ho
  induction hr with
  | strike st who s => exact Or.inl ⟨st, who, _, rfl, by simpa using ho⟩
  | badStart m hm =>
    exact Or.inr (Or.inl ⟨by simpa using ho, hm.imp id fun ⟨n, h, _⟩ => ⟨n, h⟩⟩)
  | lookTo c hc =>
    subst hc
    refine Or.inr (Or.inr (Or.inl ⟨rfl, ?_⟩))
    simp only [List.mem_cons] at ho
    rcases ho with rfl | rfl | ho
    · exact Or.inl rfl
    · exact Or.inr (Or.inl ⟨_, _, _, rfl⟩)
    · exact Or.inr (Or.inr ho)
  | go c hc =>
    subst hc
    obtain ⟨c, rfl, -, hc⟩ := mem_makeCalls ho
    exact Or.inr (Or.inr (Or.inr (Or.inl ⟨rfl, c, rfl, hc⟩)))
  | settings kvs hs u s c outs hout =>
    obtain ⟨k, v, rfl⟩ := hout o ho
    exact Or.inr (Or.inr (Or.inr (Or.inr (Or.inl ⟨kvs, k, v, rfl, rfl⟩))))
  | stop =>
    refine Or.inr (Or.inr (Or.inr (Or.inr (Or.inr ⟨rfl, ?_⟩))))
    simpa using ho
  | _ => cases ho

end Wheatley
