/-
Lifting an invariant of the Bot to the timed world.

The Bot changes in four places only: a message is handled (`Bot.onMsg`), the handler of an accepted Look To wakes
up and runs the rest of `look_to_has_been_called` (`armLookTo`, `startNextRow true`), the main thread calls
`look_to_has_been_called` itself (`--look-to-time`), and `tick` finishes (`tickEnd`).  A predicate that these
transitions preserve - for the messages of a class `E` - therefore holds of the Bot in every state of every run
whose events are of that class.
-/
import Wheatley.Lemmas.Steps
import Wheatley.Lemmas.Run
namespace Wheatley
variable {K : Type} [Num K]

/-- The main thread's own `look_to_has_been_called` needs no field: it does nothing or what `arm` says
(`BotInvariant.lookTo`). -/
structure BotInvariant (I : Bot → Prop) (E : Ev → Prop) : Prop where
  arm : ∀ b, I b → I (b.armLookTo.startNextRow true).1
  tick : ∀ b bell uc, I b → I (b.tickEnd bell uc).1
  msg : ∀ b m, E (.msg m) → I b → I (b.onMsg m).1

theorem BotInvariant.ofFirstRow {I : Bot → Prop} {E : Ev → Prop} (first : ∀ b, I b → I b.firstRow)
    (tick : ∀ b bell uc, I b → I (b.tickEnd bell uc).1) (msg : ∀ b m, E (.msg m) → I b → I (b.onMsg m).1) :
    BotInvariant I E :=
  { arm := fun b h => by rw [arm_start]; exact first b h, tick, msg }

namespace BotInvariant
variable {I : Bot → Prop} {E : Ev → Prop}

theorem first (h : BotInvariant I E) (b : Bot) (hb : I b) : I b.firstRow := by
  have := h.arm b hb
  rwa [arm_start] at this

theorem lookTo (h : BotInvariant I E) (b : Bot) (hb : I b) : I b.lookTo.1 :=
  lookTo_fst b (fun _ => hb) (h.first b hb)

theorem finishTick (h : BotInvariant I E) (wt : K → K) (w : World K) (bell : Nat) (uc : Bool) (hb : I w.bot) :
    I (w.finishTick wt bell uc).1.bot := by
  obtain ⟨l, rh, now, la, tape, md, cr, pc, h', -⟩ := ran_eq wt w.now w (w.bot.tickEnd bell uc) .tickSlept
  rw [finishTick_fst, h']
  exact h.tick w.bot bell uc hb

theorem afterInner (h : BotInvariant I E) (wt : K → K) (w : World K) (bell : Nat) (uc hand : Bool) (d : K) (js : Bool)
    (hb : I w.bot) : I (w.afterInner wt bell uc hand d js).1.bot := by
  rcases afterInner_cases wt w bell uc hand d js with ⟨_, _, _, _, h'⟩ | ⟨wait, _, h'⟩
  · rw [h']; exact hb
  · rw [h']; exact h.finishTick wt _ bell uc hb

theorem world (h : BotInvariant I E) (wt : K → K) : WorldInvariant wt (fun w : World K => I w.bot) E where
  clock := fun _ _ hb => hb
  main := by
    intro w hb
    obtain ⟨p, hp, hs⟩ := mainStep_does wt w
    rw [hs.did.bot]
    cases hp with
    | status => exact hb
    | lookTo => exact h.lookTo w.bot hb
    | tick bell uc => exact h.tick w.bot bell uc hb
  deliver := by
    intro w e he hb
    obtain ⟨p, hp, hd, -⟩ := deliver_does wt w e
    rw [hd.bot]
    cases hp with
    | nothing => exact hb
    | wake => exact h.first w.bot hb
    | sleep => exact hb
    | msg m => exact h.msg w.bot m he hb

theorem run (h : BotInvariant I E) (wt : K → K) (endTime : K) :
    ∀ (fuel : Nat) (w : World K) (events : List (K × Ev)), (∀ ev ∈ events, E ev.2) → I w.bot →
      I (World.run wt endTime fuel w events).1.bot :=
  (h.world wt).run endTime

end BotInvariant
end Wheatley
