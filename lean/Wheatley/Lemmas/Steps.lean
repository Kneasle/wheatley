/-
The steps of the two threads of the timed world as transitions of the Bot: a step of the main thread has the Bot do
one of three things (`Bot.MainDoes`), a step of the socket thread one of four (`Bot.SocketDoes`); the outputs are
logged in order and told to the rhythm; what else of the world a step can move is said in `World.MainStepped`
(`mainStep_does`) and `deliver_does`.
-/
import Wheatley.Lemmas.World
namespace Wheatley
variable {K : Type} [Num K]

/-- What the main thread has the Bot do in one step: nothing but a status message, `look_to_has_been_called` (only
when `spawned`: by `--look-to-time`, once the tower is loaded), or the end of `tick`. -/
inductive Bot.MainDoes (b : Bot) (spawned : Prop) : Bot × List Out → Prop
  | status (outs : List Out) (h : ∀ o ∈ outs, (∃ v, o = .setIsRinging v) ∨ ∃ id, o = .rollCall id) :
      MainDoes b spawned (b, outs)
  | lookTo (h : spawned) : MainDoes b spawned b.lookTo
  | tick (bell : Nat) (uc : Bool) : MainDoes b spawned (b.tickEnd bell uc)

/-- The main thread is still waiting for the tower and has a Look To time from the command line (`--look-to-time`,
the way Ringing Room's server spawns Wheatley): once the tower is loaded it will run `look_to_has_been_called`
itself, past the gate of `_on_look_to`. -/
def World.Spawned (w : World K) : Prop := ∃ it t, w.pc = .waitLoaded it (some t)

/-- What the socket thread has the Bot do in one step: a handler, the first half of a Look To handler that goes to
sleep (the Bot is not touched yet), its second half, or nothing. -/
inductive Bot.SocketDoes (b : Bot) : Ev → Bot × List Out → Prop
  | nothing : SocketDoes b .resume (b, [])
  | wake : SocketDoes b .resume (b.firstRow, b.firstRow.expectAll)
  | sleep (stage : Nat) (ut : Bool) (n : Nat) :
      SocketDoes b (.msg (.call Generated.call_LOOK_TO)) (b, [.rReturn, .rInit stage ut n])
  | msg (m : Msg) : SocketDoes b (.msg m) (b.onMsg m)

theorem socketDoes_outs {b : Bot} {e : Ev} {p : Bot × List Out} (h : b.SocketDoes e p) : ∀ o ∈ p.2,
    o.toRhythm = true ∨ o = .crash "ValueError" ∨ (∃ c, o = .call c ∧ b.callComps = true) ∨
    o = .setIsRinging false := by
  intro o ho
  cases h with
  | nothing => cases ho
  | wake => obtain ⟨_, _, rfl, -⟩ := mem_expectAll ho; exact Or.inl rfl
  | sleep =>
    simp only [List.mem_cons, List.not_mem_nil, or_false] at ho
    rcases ho with rfl | rfl <;> exact Or.inl rfl
  | msg m =>
    rcases onMsg_outs b m o ho with ⟨_, _, _, _, rfl⟩ | ⟨rfl, _⟩ | ⟨_, ho⟩ | ⟨_, c, rfl, hc⟩ | ⟨_, _, _, _, rfl⟩ | ⟨_, ho⟩
    · exact Or.inl rfl
    · exact Or.inr (Or.inl rfl)
    · rcases ho with rfl | ⟨_, _, _, rfl⟩ | ho
      · exact Or.inl rfl
      · exact Or.inl rfl
      · obtain ⟨_, _, rfl, -⟩ := mem_expectAll ho; exact Or.inl rfl
    · exact Or.inr (Or.inr (Or.inl ⟨c, rfl, hc⟩))
    · exact Or.inl rfl
    · rcases ho with rfl | rfl
      · exact Or.inr (Or.inr (Or.inr rfl))
      · exact Or.inl rfl

/-- `w'` comes from `w` by the transition `p` of the Bot, its outputs logged in order. -/
def World.Did (p : Bot × List Out) (w w' : World K) : Prop :=
  ∃ l, w'.bot = p.1 ∧ w'.obs = l ++ w.obs ∧ l.map (·.out) = p.2.reverse

theorem World.Did.bot {p : Bot × List Out} {w w' : World K} (h : w.Did p w') : w'.bot = p.1 :=
  let ⟨_, hb, _⟩ := h
  hb

theorem World.Did.filter_obs {p : Bot × List Out} {w w' : World K} (h : w.Did p w') (f : Out → Bool)
    (hf : ∀ o ∈ p.2, f o = false) : w'.obs.filter (fun o => f o.out) = w.obs.filter (fun o => f o.out) := by
  obtain ⟨l, -, ho, hl⟩ := h
  rw [ho, List.filter_append, List.filter_eq_nil_iff.mpr, List.nil_append]
  intro x hx
  have : x.out ∈ p.2 := by
    rw [← List.mem_reverse, ← hl]
    exact List.mem_map_of_mem hx
  simp [hf _ this]

/-- What a step of the main thread that has the Bot do `p` can do to the main loop's fate (it holds of every step):
nothing; or end it, by an exception among the outputs of `p`, by giving up waiting for the tower, or by `tick`
indexing past the row. -/
def World.Dies (p : Bot × List Out) (w w' : World K) : Prop :=
  (p.2.findSome? isCrash = none ∧
    (w'.crashed = w.crashed ∨ (w'.pc = .done ∧ (w'.crashed = some "SocketIOClientError" ∨
      (w'.crashed = some "IndexError" ∧ w.bot.isRinging = true ∧ w.bot.tickBegin = none))))) ∨
  (∃ e, p.2.findSome? isCrash = some e ∧ w'.crashed = some e ∧ w'.pc = .done)

theorem World.Dies.crashed {p : Bot × List Out} {w w' : World K} (h : w.Dies p w') {e : String}
    (he : w'.crashed = some e) :
    w.crashed = some e ∨ e = "SocketIOClientError" ∨
      (e = "IndexError" ∧ w.bot.isRinging = true ∧ w.bot.tickBegin = none) ∨ Out.crash e ∈ p.2 := by
  rcases h with ⟨-, hc | ⟨-, hc | ⟨hc, h2⟩⟩⟩ | ⟨e', h1, hc, -⟩ <;> rw [hc] at he
  · exact Or.inl he
  · exact Or.inr (Or.inl (Option.some.inj he).symm)
  · exact Or.inr (Or.inr (Or.inl ⟨(Option.some.inj he).symm, h2⟩))
  · exact Or.inr (Or.inr (Or.inr (mem_of_findSome_isCrash (Option.some.inj he ▸ h1))))

theorem World.Dies.alive {p : Bot × List Out} {w w' : World K} (h : w.Dies p w') (hp : w'.pc ≠ .done) :
    ∀ e, Out.crash e ∉ p.2 := by
  rcases h with ⟨hn, -⟩ | ⟨_, -, -, hd⟩
  · exact not_crash_of_findSome_none hn
  · exact absurd hd hp

/-- How a step of the main thread that tells the rhythm the outputs `outs` can leave the rhythm object: besides the
tellings it may lower the regression rhythm's return flag and let the wrapper do its own bookkeeping.  Said through
the predicates such a step keeps: those indifferent to the first two and kept by each telling. -/
def Rh.Stepped (wt : K → K) (outs : List Out) (rh rh' : Rh K) : Prop :=
  ∀ P : Rh K → Prop,
    (∀ rh : Rh K, P rh → P { rh with reg := { rh.reg with shouldReturn := false } }) →
    (∀ (rh : Rh K) (wait : Option (WaitR K)), P rh → P { rh with wait := wait }) →
    Rh.Keeps wt (· ∈ outs) P → P rh → P rh'

theorem Rh.Stepped.refl (wt : K → K) (outs : List Out) (rh : Rh K) : Rh.Stepped wt outs rh rh := fun _ _ _ _ h => h

/-- What the wrapper's polling loop will have counted when the main thread next makes its test: one more poll if it
is asleep in the loop, nothing yet otherwise. -/
def World.polled (w : World K) : K :=
  match w.pc with
  | .userPoll _ _ _ d => d + Num.ofQ Generated.waitSleepTime
  | _ => W0

/-- The inactivity test of the idle loop comes out true. -/
def World.Inactive (w : World K) : Prop :=
  (w.bot.serverMode && !w.bot.isRinging &&
    decide (w.lastActivity + Num.ofQ Generated.inactivityExitTime < w.now)) = true

/-- What a step of the main thread that has the Bot do `p` makes of the world.  `holdUp`: it polls on, with the
count `w.polled`, or ends outside the polling loop with the hold-up as it was or - the loop left - longer by
`w.polled`.  `exited`: only the inactivity test of the idle loop makes the main loop return. -/
structure World.MainStepped (wt : K → K) (p : Bot × List Out) (w w' : World K) : Prop where
  did : w.Did p w'
  dies : w.Dies p w'
  suspended : w'.suspended = w.suspended
  spawned : w'.Spawned → w.Spawned
  rh : Rh.Stepped wt p.2 w.rh w'.rh
  holdUp : (w'.delay = w.delay ∧ ∃ bell uc hand, w'.pc = .userPoll bell uc hand w.polled) ∨
    ((w'.delay = w.delay ∨ w'.delay = w.delay + w.polled) ∧ ∀ bell uc hand d, w'.pc ≠ .userPoll bell uc hand d)
  exited : w'.exited = w.exited ∨ (w.pc = .idleSlept ∧ w.Inactive)

/-- The places of the main thread that carry nothing over to the next step (as waiting for the tower with a Look To
time and the polling loop with its count do). -/
def PC.plain : PC K → Bool
  | .waitLoaded _ (some _) | .userPoll _ _ _ _ => false
  | _ => true

theorem PC.plain_spawn {pc : PC K} (h : pc.plain = true) (it : Nat) (t : K) : pc ≠ .waitLoaded it (some t) := by
  rintro rfl; cases h

theorem PC.plain_poll {pc : PC K} (h : pc.plain = true) (bell : Nat) (uc hand : Bool) (d : K) :
    pc ≠ .userPoll bell uc hand d := by
  rintro rfl; cases h

theorem mainStepped_quiet {wt : K → K} {w : World K} {rh' : Rh K} {la : K} {ex : Bool} {cr : Option String}
    {pc' : PC K} (hrh : Rh.Stepped wt [] w.rh rh') (hd : Rh.delay rh' = w.delay)
    (hsp : ∀ it t, pc' = .waitLoaded it (some t) → w.Spawned)
    (hp : (∃ bell uc hand, pc' = .userPoll bell uc hand w.polled) ∨ ∀ bell uc hand d, pc' ≠ .userPoll bell uc hand d)
    (hc : cr = w.crashed ∨ (pc' = .done ∧ (cr = some "SocketIOClientError" ∨
      (cr = some "IndexError" ∧ w.bot.isRinging = true ∧ w.bot.tickBegin = none))))
    (hex : ex = w.exited ∨ (w.pc = .idleSlept ∧ w.Inactive)) :
    ∃ p, w.bot.MainDoes w.Spawned p ∧
      w.MainStepped wt p { w with rh := rh', lastActivity := la, exited := ex, crashed := cr, pc := pc' } :=
  ⟨_, .status [] (fun _ h => by cases h), ⟨[], rfl, rfl, rfl⟩, Or.inl ⟨rfl, hc⟩, rfl,
    by rintro ⟨it, t, e⟩; exact hsp it t e, hrh, hp.imp (fun h => ⟨hd, h⟩) (fun h => ⟨Or.inl hd, h⟩), hex⟩

theorem mainStepped_ran {wt : K → K} {w : World K} {rh0 : Rh K} (ct : K) {q : Bot × List Out} (next : PC K)
    (hrh : Rh.Stepped wt [] w.rh rh0) (hd : Rh.delay rh0 = w.delay ∨ Rh.delay rh0 = w.delay + w.polled)
    (hq : w.bot.MainDoes w.Spawned q) (hn : next.plain = true) :
    ∃ p, w.bot.MainDoes w.Spawned p ∧ w.MainStepped wt p (({ w with rh := rh0 } : World K).ran wt ct q next) := by
  obtain ⟨l, rh, now, la, tape, md, cr, pc, h, hl, hcr⟩ := ran_eq wt ct ({ w with rh := rh0 } : World K) q next
  -- with or without an exception the thread is left at a plain place
  have hpl : pc.plain = true := by
    rcases hcr with ⟨-, -, rfl⟩ | ⟨_, -, -, rfl⟩
    · exact hn
    · rfl
  refine ⟨q, hq, ⟨l, by rw [h], by rw [h], hl⟩, ?_, by rw [h], ?_, ?_, Or.inr ⟨by rw [ran_delay]; exact hd, ?_⟩,
    Or.inl (by rw [h])⟩
  · rw [h]
    rcases hcr with ⟨c1, c2, -⟩ | ⟨e, c1, c2, c3⟩
    · exact Or.inl ⟨c1, Or.inl c2⟩
    · exact Or.inr ⟨e, c1, c2, c3⟩
  · rintro ⟨it, t, hpc⟩
    rw [h] at hpc
    exact absurd hpc (PC.plain_spawn hpl it t)
  · intro P flag wrap told hp
    rw [ran_rh]
    exact foldl_applyOut_rh wt ct told q.2 _ (fun _ h _ => h) (hrh P flag wrap (fun _ _ _ _ ho => by cases ho) hp)
  · rw [h]
    exact PC.plain_poll hpl

theorem mainStepped_status (wt : K → K) (w : World K) (outs : List Out) (next : PC K)
    (ho : ∀ o ∈ outs, (∃ v, o = .setIsRinging v) ∨ ∃ id, o = .rollCall id) (hn : next.plain = true) :
    ∃ p, w.bot.MainDoes w.Spawned p ∧
      w.MainStepped wt p (outs.foldl (World.applyOut wt w.now) { w with pc := next }) := by
  rw [foldl_applyOut_log wt w.now outs _ fun o h => by rcases ho o h with ⟨_, rfl⟩ | ⟨_, rfl⟩ <;> rfl]
  refine ⟨_, .status outs ho, ⟨_, rfl, rfl, by simp [Function.comp_def]⟩, Or.inl ⟨?_, Or.inl rfl⟩, rfl,
    by rintro ⟨it, t, h⟩; exact absurd h (PC.plain_spawn hn it t), Rh.Stepped.refl _ _ _,
    Or.inr ⟨Or.inl rfl, PC.plain_poll hn⟩, Or.inl rfl⟩
  rw [List.findSome?_eq_none_iff]
  intro o ho'
  rcases ho o ho' with ⟨_, rfl⟩ | ⟨_, rfl⟩ <;> rfl

theorem mainStepped_afterInner {wt : K → K} {w : World K} {rh0 : Rh K} (bell : Nat) (uc hand : Bool) {d : K} (js : Bool)
    (hrh : Rh.Stepped wt [] w.rh rh0) (hd : Rh.delay rh0 = w.delay) (hpl : d = w.polled) :
    ∃ p, w.bot.MainDoes w.Spawned p ∧
      w.MainStepped wt p (({ w with rh := rh0 } : World K).afterInner wt bell uc hand d js).1 := by
  subst hpl
  rcases afterInner_cases wt ({ w with rh := rh0 } : World K) bell uc hand w.polled js with
    ⟨_, _, _, _, h⟩ | ⟨wait, hw, h⟩
  · rw [h]
    exact mainStepped_quiet hrh hd (fun _ _ e => by cases e) (Or.inl ⟨_, _, _, rfl⟩) (Or.inl rfl) (Or.inl rfl)
  · rw [h, finishTick_fst]
    refine mainStepped_ran (rh0 := { rh0 with wait := wait }) _ _
      (fun P flag wrap told hp => wrap _ wait (hrh P flag wrap told hp)) ?_ (.tick bell uc) rfl
    rcases hw with rfl | ⟨wr, x, hwr, hx, rfl⟩
    · exact Or.inl hd
    · have hwd : Rh.delay rh0 = wr.delay := by unfold Rh.delay; rw [show rh0.wait = some wr from hwr]
      rw [← hd, hwd]
      rcases hx with rfl | ⟨-, rfl⟩
      · exact Or.inl rfl
      · exact Or.inr rfl

theorem mainStep_does (wt : K → K) (w : World K) :
    ∃ p, w.bot.MainDoes w.Spawned p ∧ w.MainStepped wt p (w.mainStep wt).1 := by
  -- the goal as a named predicate of the coming world, for `ite_cases` to find its motive
  let Q : World K → Prop := fun w' => ∃ p, w.bot.MainDoes w.Spawned p ∧ w.MainStepped wt p w'
  -- the thread moves on to a plain place, perhaps stamping the activity
  have quiet : ∀ {la : K} {pc' : PC K}, pc'.plain = true → Q { w with lastActivity := la, pc := pc' } :=
    fun hn => mainStepped_quiet (Rh.Stepped.refl _ _ _) rfl (fun it t e => absurd e (PC.plain_spawn hn it t))
      (Or.inr (PC.plain_poll hn)) (Or.inl rfl) (Or.inl rfl)
  rw [mainStep_fst]
  show Q _
  cases hpc : w.pc with
  | done => exact quiet (la := w.lastActivity) (pc' := w.pc) (by rw [hpc]; rfl)
  | waitLoaded it lt =>
    refine ite_cases (ite_cases ?_ ?_) ?_
    · cases lt with
      | none => exact quiet rfl
      | some t =>
        exact mainStepped_ran (rh0 := w.rh) t _ (Rh.Stepped.refl _ _ _) (Or.inl rfl) (.lookTo ⟨it, t, hpc⟩) rfl
    · refine mainStepped_quiet (Rh.Stepped.refl _ _ _) rfl ?_ (Or.inr fun _ _ _ _ e => by cases e) (Or.inl rfl)
        (Or.inl rfl)
      rintro _ t e
      cases e
      exact ⟨it, t, hpc⟩
    · exact mainStepped_quiet (Rh.Stepped.refl _ _ _) rfl (fun _ _ e => by cases e)
        (Or.inr fun _ _ _ _ e => by cases e) (Or.inr ⟨rfl, Or.inl rfl⟩) (Or.inl rfl)
  | idleCheck =>
    refine ite_cases (quiet rfl) ?_
    cases w.bot.serverId with
    | none => exact mainStepped_status wt w [] .ringCheck (fun _ h => by cases h) rfl
    | some id =>
      exact mainStepped_status wt w [.setIsRinging true, .rollCall id] .ringCheck
        (List.forall_mem_cons.2 ⟨Or.inl ⟨_, rfl⟩, List.forall_mem_singleton.2 (Or.inr ⟨_, rfl⟩)⟩) rfl
  | idleSlept =>
    refine ite_cases_of (fun hc => ?_) fun _ => quiet rfl
    exact mainStepped_quiet (Rh.Stepped.refl _ _ _) rfl (fun _ _ e => by cases e)
      (Or.inr fun _ _ _ _ e => by cases e) (Or.inl rfl) (Or.inr ⟨hpc, hc⟩)
  | ringCheck =>
    refine ite_cases_of (fun hr => ?_) fun _ => ?_
    · cases hb : w.bot.tickBegin with
      | none =>
        exact mainStepped_quiet (Rh.Stepped.refl _ _ _) rfl (fun _ _ e => by cases e)
          (Or.inr fun _ _ _ _ e => by cases e) (Or.inr ⟨rfl, Or.inr ⟨rfl, hr, hb⟩⟩) (Or.inl rfl)
      | some x =>
        obtain ⟨wait, e1, hd, e2⟩ := beginWait_eq w x.1 x.2 w.bot.hand
        have hp : (w.beginWait x.1 x.2 w.bot.hand).2.2.plain = true := by
          rw [e2]
          cases w.rh.stub with
          | some _ => rfl
          | none => dsimp only; cases w.rh.reg.waitPlan _ _ _ _ <;> rfl
        dsimp only
        rw [e1]
        exact mainStepped_quiet (fun P _ wrap _ hp => wrap _ wait hp) hd
          (fun it t e => absurd e (PC.plain_spawn hp it t)) (Or.inr (PC.plain_poll hp)) (Or.inl rfl) (Or.inl rfl)
    · cases w.bot.serverMode with
      | true =>
        exact mainStepped_status wt w [.setIsRinging false] .outerTop (List.forall_mem_singleton.2 (Or.inl ⟨_, rfl⟩)) rfl
      | false => exact mainStepped_status wt w [] .outerTop (fun _ h => by cases h) rfl
  | pullOff bell uc hand =>
    cases w.rh.reg.start with
    | inf => exact quiet (la := w.lastActivity) (pc' := w.pc) (by rw [hpc]; rfl)
    | fin _ =>
      exact mainStepped_afterInner (rh0 := w.rh) _ _ _ _ (Rh.Stepped.refl _ _ _) rfl (by rw [World.polled, hpc])
  | innerSlept bell uc hand =>
    have hpl : (W0 : K) = w.polled := by rw [World.polled, hpc]
    cases w.rh.stub with
    | some _ => exact mainStepped_afterInner (rh0 := w.rh) _ _ _ _ (Rh.Stepped.refl _ _ _) rfl hpl
    | none =>
      dsimp only
      rw [← hpc]
      exact mainStepped_afterInner (rh0 := { w.rh with reg := { w.rh.reg with shouldReturn := false } }) _ _ _ _
        (fun P flag _ _ hp => flag _ hp) rfl hpl
  | userPoll bell uc hand d =>
    exact mainStepped_afterInner (rh0 := w.rh) _ _ _ _ (Rh.Stepped.refl _ _ _) rfl (by rw [World.polled, hpc])
  | outerTop => exact quiet rfl
  | tickSlept => exact quiet rfl

theorem deliver_does (wt : K → K) (w : World K) (e : Ev) :
    ∃ p, w.bot.SocketDoes e p ∧ w.Did p (World.deliver wt w e) ∧ (World.deliver wt w e).pc = w.pc ∧
      (World.deliver wt w e).crashed = w.crashed := by
  rcases deliver_cases wt w e with ⟨rfl, -, h⟩ | ⟨s, rfl, -, h⟩ | ⟨m, s, wr, rfl, hl, h⟩ | ⟨m, rfl, -, h⟩
  · rw [h]; exact ⟨_, .nothing, ⟨[], rfl, rfl, rfl⟩, rfl, rfl⟩
  · obtain ⟨reg, tape, md, hi, -⟩ := lookToInner_eq wt ({ w with suspended := none } : World K) s
    obtain ⟨l, rh, now, la, tape', md', h', hl⟩ := handled_eq wt
      (({ w with suspended := none } : World K).lookToInner s) (w.bot.firstRow, w.bot.firstRow.expectAll)
    have hb : (({ w with suspended := none } : World K).lookToInner s).bot = w.bot := by rw [hi]
    rw [h, lookToRest_eq, hb, h', hi]
    exact ⟨_, .wake, ⟨l, rfl, rfl, hl⟩, rfl, rfl⟩
  · rw [h, (lookToSuspends_some hl).1]
    exact ⟨_, .sleep s.stage s.userTreble s.nUser, ⟨[_, _], rfl, rfl, rfl⟩, rfl, rfl⟩
  · obtain ⟨l, rh, now, la, tape, md, h', hl⟩ := handled_eq wt w (w.bot.onMsg m)
    rw [h, h']
    exact ⟨_, .msg m, ⟨l, rfl, rfl, hl⟩, rfl, rfl⟩

end Wheatley
