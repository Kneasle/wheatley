/-
While the method is being rung, the row the Bot rings is the row generator's current row with the opening row's
tail for cover bells - an invariant of the Bot through every handler, every Look To and every `start_next_row`
(for the C02 / C03 / C04 system-level theorem: what the theorems about generators say of their rows is said of
what is rung).  `tickEnd_inMethod` says how a turn can leave the Bot in the method; the invariants of `Covers` and
`FreshTouch` rest on it too.
-/
import Wheatley.Lemmas.Lift
namespace Wheatley

namespace MethodRows

/-- Generators whose `next_row` always yields a row: notation-driven ones, Plain Hunt and compositions (a
Dixonoid can raise `KeyError` for a rule table without a default, the placeholder always raises). -/
def Total (k : GenKind) : Prop :=
  match k with
  | .pn _ => True
  | .plainHunt _ => True
  | .comp _ => True
  | _ => False

instance (k : GenKind) : Decidable (Total k) := by
  cases k <;> unfold Total <;> infer_instance

theorem Total.next {g : Gen} (h : Total g.kind) (hand : Bool) : ∃ g' r calls, g.next hand = .ok g' r calls := by
  unfold Gen.next
  split
  · exact ⟨_, _, _, rfl⟩
  · exact ⟨_, _, _, rfl⟩
  · rename_i c hk; rw [hk] at h; exact h.elim
  · split <;> exact ⟨_, _, _, rfl⟩
  · rename_i hk; rw [hk] at h; exact h.elim

def InMethod (b : Bot) : Prop := b.isRinging = true ∧ b.ringingOpening = false ∧ b.ringingRounds = false

theorem not_inMethod_firstRow (b : Bot) : ¬ InMethod b.firstRow := fun h => nomatch h.2.1

theorem ctlNext_inMethod {c : Ctl} {i : CtlIn} (hs : startsNow c = false)
    (hm : (ctlNext c i).isRinging = true ∧ (ctlNext c i).ringingOpening = false ∧ (ctlNext c i).ringingRounds = false) :
    c.isRinging = true ∧ c.ringingOpening = false ∧ c.ringingRounds = false := by
  obtain ⟨h1, h2, h3⟩ := hm
  -- the fields of `ctlNext c i` as its definition gives them
  have h2' : (if startsNow c = true then false else c.ringingOpening) = false := h2
  have h3' : (if startsNow c = true then !i.fits else c.ringingRounds) = false := ite_true_else h3
  simp only [hs, Bool.false_eq_true, if_false] at h2' h3'
  exact ⟨ite_false_else h1, h2', h3'⟩

/-- **How the Bot `b'` can be in the method after a row boundary of `b`.**  Nothing was generated (the stroke assertion
failed, or the generator raised in the middle of the method): generator and row are as they were, in the method.  The
generator raised on the first row of the method: it has been reset, the row is the old one.  Or a row was generated,
by the generator as it was if the Bot was in the method, by the reset generator if the method starts here. -/
def AfterBoundary (b b' : Bot) : Prop :=
  (InMethod b ∧ b'.gen = b.gen ∧ b'.row = b.row) ∨
  (b'.gen = b.gen.reset ∧ b'.row = b.row ∧ ∃ hand, ∀ g' r calls, b.gen.reset.next hand ≠ .ok g' r calls) ∨
  ∃ g hand g' r calls, ((InMethod b ∧ g = b.gen) ∨ g = b.gen.reset) ∧ g.next hand = .ok g' r calls ∧
    b'.gen = g' ∧ b'.row = padded r b.openingRow

theorem startNextRow_inMethod {b : Bot} {f : Bool} (hm : InMethod (b.startNextRow f).1) :
    AfterBoundary b (b.startNextRow f).1 := by
  rcases startNextRow_cases b f with ⟨_, e⟩ | ⟨c, s, hstep, e⟩ <;> rw [e] at hm ⊢
  · exact Or.inl ⟨hm, rfl, rfl⟩
  · have hq := boundary_eq b c s
    -- the Bot between the control step and the choice of the row
    generalize b.boundary c s = q at hm hq ⊢
    have hgen : InMethod q → (InMethod b ∧ q.gen = b.gen) ∨ q.gen = b.gen.reset := by
      rw [hq]
      cases s
      · -- read off while `c` is a variable: with `ctlNext ..` in its place every projection would unfold it
        intro (h : c.isRinging = true ∧ c.ringingOpening = false ∧ c.ringingRounds = false)
        obtain ⟨rfl, hs⟩ := ctlStep_ok hstep
        exact Or.inl ⟨ctlNext_inMethod hs.symm h, rfl⟩
      · exact fun _ => Or.inr rfl
    have hrow : q.row = b.row ∧ q.openingRow = b.openingRow := by rw [hq]; exact ⟨rfl, rfl⟩
    rw [snrFinish_fst] at hm ⊢
    split at hm
    case isFalse hr => exact absurd hm.1 hr
    rw [if_pos ‹_›]
    rcases generateNextRow_cases q with ⟨ho, e1⟩ | ⟨_, hr, e1⟩ | ⟨_, _, g', r, calls, hn, e1⟩ | ⟨_, _, _, _, hne, e1⟩ <;>
      rw [e1] at hm ⊢
    · exact absurd (ho.symm.trans hm.2.1) Bool.false_ne_true.symm
    · exact absurd (hr.symm.trans hm.2.2) Bool.false_ne_true.symm
    · exact Or.inr (Or.inr ⟨q.gen, q.hand, g', r, calls, hgen hm, hn, rfl, by rw [← hrow.2]⟩)
    · rcases hgen hm with ⟨hb, eg⟩ | eg
      · exact Or.inl ⟨hb, eg, hrow.1⟩
      · exact Or.inr (Or.inl ⟨eg, hrow.1, q.hand, eg ▸ hne⟩)

theorem tickEnd_inMethod {b : Bot} {bell : Nat} {uc : Bool} (hm : InMethod (b.tickEnd bell uc).1) :
    AfterBoundary b (b.tickEnd bell uc).1 :=
  tickEnd_fst (P := fun b' => InMethod b' → AfterBoundary b b') b bell uc (fun hm => Or.inl ⟨hm, rfl, rfl⟩)
    startNextRow_inMethod hm

theorem tickEnd_total {b : Bot} {bell : Nat} {uc : Bool} (ht : Total b.gen.kind) (hm : InMethod (b.tickEnd bell uc).1) :
    (InMethod b ∧ (b.tickEnd bell uc).1.gen = b.gen ∧ (b.tickEnd bell uc).1.row = b.row) ∨
    (b.tickEnd bell uc).1.row =
      (b.tickEnd bell uc).1.gen.row ++ b.openingRow.drop (b.tickEnd bell uc).1.gen.row.length := by
  rcases tickEnd_inMethod hm with h | ⟨-, -, hand, hne⟩ | ⟨g, hand, g', r, calls, -, hn, e1, e2⟩
  · exact Or.inl h
  · obtain ⟨_, _, _, hn⟩ := Total.next (g := b.gen.reset) ht hand
    exact absurd hn (hne _ _ _)
  · rw [e1, e2, (Gen.next_keeps hn).1, pad_eq]; exact Or.inr rfl

/-- In the method the row being rung begins with the generator's current row; for that the generator, and whatever is
queued to replace it at the next Look To, must be one that always yields a row. -/
structure Inv (b : Bot) : Prop where
  total : Total b.gen.kind
  queued : ∀ g, b.nextGen = some g → Total g.kind
  row : InMethod b → b.gen.row <+: b.row

theorem Inv.shrink {b b' : Bot} (h : Inv b) (h1 : b'.gen = b.gen) (h2 : ∀ g, b'.nextGen = some g → b.nextGen = some g)
    (h4 : b'.row = b.row) (h5 : b'.isRinging = b.isRinging) (h6 : b'.ringingOpening = b.ringingOpening)
    (h7 : b'.ringingRounds = b.ringingRounds) : Inv b' :=
  { total := by rw [h1]; exact h.total
    queued := fun g hg => h.queued g (h2 g hg)
    row := by
      intro hm
      unfold InMethod at hm
      rw [h5, h6, h7] at hm
      rw [h4, h1]; exact h.row hm }

theorem firstRow_inv (b : Bot) (h : Inv b) : Inv b.firstRow := by
  refine { total := ?_, queued := fun _ hg => (nomatch hg), row := fun hm => absurd hm (not_inMethod_firstRow b) }
  show Total (b.nextGen.getD b.gen).kind
  cases hn : b.nextGen with
  | none => exact h.total
  | some g => exact h.queued g hn

theorem tick_inv (b : Bot) (bell : Nat) (uc : Bool) (h : Inv b) : Inv (b.tickEnd bell uc).1 := by
  obtain ⟨c, p, g, cs, r, e, -⟩ := tickEnd_frame b bell uc
  refine { total := by rw [tickEnd_kind]; exact h.total, queued := by rw [e]; exact h.queued, row := fun hm => ?_ }
  rcases tickEnd_total h.total hm with ⟨hb, e1, e2⟩ | e1
  · rw [e1, e2]; exact h.row hb
  · rw [e1]; exact List.prefix_append _ _

def Sel : Ev → Prop
  | .msg (.rowGen (some g)) => Total g.kind
  | _ => True

theorem msg_inv (b : Bot) (m : Msg) (hm : Sel (.msg m)) (h : Inv b) : Inv (b.onMsg m).1 := by
  have hsee : Inv (b.see m) := h.shrink rfl (fun _ hg => hg) rfl rfl rfl rfl
  have hr := onMsg_handles b m
  generalize b.onMsg m = p at hr
  induction hr with
  | ignore | strike | badStart => exact hsee
  | resize => exact hsee.shrink rfl (fun g hg => Option.eq_some_of_filter_eq_some hg) rfl rfl rfl rfl
  | lookTo => exact firstRow_inv b h
  | bob | single => exact { h with }
  | rounds => exact { h with row := fun hm => nomatch hm.2.1 }
  | select g => exact { h with queued := fun g' hg' => by injection hg' with hg'; subst hg'; exact hm }
  | stop => exact { h with row := fun hm => nomatch hm.1 }
  | _ => exact h.shrink rfl (fun _ hg => hg) rfl rfl rfl rfl

theorem botInvariant : BotInvariant Inv Sel := .ofFirstRow firstRow_inv tick_inv msg_inv

end MethodRows
end Wheatley
