/-
Every linearly ordered field is a `Num`: the rhythm model, executed at `Float` by the driver, is
*proved about* for all such fields (ℚ, ℝ, …) with exact arithmetic.
-/
import Mathlib.Tactic.Ring
import Mathlib.Tactic.Linarith
import Mathlib.Tactic.Positivity
import Wheatley.Model.Rhythm
namespace Wheatley

instance (priority := low) fieldNum {K : Type} [Field K] [LinearOrder K] [IsStrictOrderedRing K] : Num K where
  ofNat n := (n : K)
  decLt := fun _ _ => inferInstance
  decLe := fun _ _ => inferInstance
  eqb a b := decide (a = b)

variable {K : Type} [Field K] [LinearOrder K] [IsStrictOrderedRing K]

@[simp] theorem num_ofNat (n : Nat) : (Num.ofNat n : K) = (n : K) := rfl
@[simp] theorem num_eqb (a b : K) : Num.eqb a b = decide (a = b) := rfl
theorem num_ofQ (q : Nat × Nat) : (Num.ofQ q : K) = (q.1 : K) / (q.2 : K) := rfl

end Wheatley
