/-
What a written notation stands for, and that `convert_pn` finds it: the changes its tokens denote (`Tok.denote`),
blocks with their `&` / `+` prefix and the palindrome conventions (`Block`, `Block.denote`), blocks joined by
commas (`textOf`, `denoteAll`).
-/
import Wheatley.Lemmas.RoundTripTok
namespace Wheatley.RoundTrip

def Tok.denote : Tok → Places
  | .cross .. => []
  | .pl ps => ps

theorem convertPiece_piece (t : Tok) (h : t.WF) : convertPiece t.piece = some t.denote := by
  cases t with
  | cross sym b a => exact if_pos rfl
  | pl ps =>
    have hnd : ps.map bellChar ≠ ['-'] := fun he => by
      obtain ⟨p, hp, e⟩ := List.mem_map.mp (he ▸ List.mem_cons_self : '-' ∈ ps.map bellChar)
      exact (bellSym (h.2 p hp)).ne_dash e
    refine (if_neg hnd).trans ?_
    -- `Function.comp` is unfolded at once: left in the goal it makes the last step dear to check
    rw [bellsOfString, Tok.piece, List.map_map, Function.comp_def]
    refine (mapM_map_some _ _ id ps fun p hp => ?_).trans (congrArg some (List.map_id ps))
    have hb := bellSym (h.2 p hp)
    exact (congrArg bellOfChar hb.upper).trans hb.bell

/-- A block of a notation: an optional `&` / `+` in front, and at least one change. -/
structure Block where
  pre : Option Char
  first : Tok
  rest : List Tok

def Block.toks (b : Block) : List Tok := b.first :: b.rest

def Block.WF (b : Block) : Prop := (b.pre = none ∨ b.pre = some '&' ∨ b.pre = some '+') ∧ ∀ u ∈ b.toks, u.WF

def Block.text (b : Block) : List Char := b.pre.toList ++ render false b.toks

def Block.changes (b : Block) : List Places := b.toks.map Tok.denote

/-- The conventions: in a comma-joined notation every block is palindromic unless marked `+`; a notation
without commas is palindromic only when marked `&`. -/
def Block.denote (multi : Bool) (b : Block) : List Places :=
  let sym := if multi then b.pre != some '+' else b.pre == some '&'
  if sym then b.changes ++ b.changes.dropLast.reverse else b.changes

def textOf (bs : List Block) : List Char := joinWith ',' (bs.map Block.text)

def denoteAll (bs : List Block) : List Places :=
  (bs.map (Block.denote (decide (1 < bs.length)))).flatten

theorem denoteAll_single (b : Block) : denoteAll [b] = b.denote false := List.append_nil _

theorem denoteAll_multi (b b2 : Block) (r : List Block) :
    denoteAll (b :: b2 :: r) = ((b :: b2 :: r).map (Block.denote true)).flatten := by
  have : decide (1 < (b :: b2 :: r).length) = true := decide_eq_true (Nat.succ_lt_succ (Nat.succ_pos _))
  rw [denoteAll, this]

theorem pre_chars (b : Block) (h : b.WF) : ∀ c ∈ b.pre.toList, c = '&' ∨ c = '+' := by
  intro c hc
  rcases h.1 with hp | hp | hp <;> rw [hp] at hc
  · cases hc
  · exact Or.inl (List.mem_singleton.mp hc)
  · exact Or.inr (List.mem_singleton.mp hc)

theorem text_nocomma (b : Block) (h : b.WF) : ',' ∉ b.text := by
  intro hm
  rcases List.mem_append.mp hm with hm | hm
  · rcases pre_chars b h _ hm with e | e <;> exact absurd e (by decide)
  · exact (render_chars _ h.2 false ',' hm).1 rfl

theorem startsWith_text (b : Block) (h : b.WF) (c : Char) (hc : c = '&' ∨ c = '+') :
    startsWith c b.text = (b.pre == some c) := by
  unfold Block.text
  cases b.pre with
  | some d => rfl
  | none =>
    -- no prefix: the first character belongs to the first change
    cases hr : render false b.toks with
    | nil => rfl
    | cons d ds =>
      have hd := render_chars _ h.2 false d (hr ▸ List.mem_cons_self)
      exact decide_eq_false (by rcases hc with rfl | rfl; exact hd.2.1; exact hd.2.2)

theorem convertBlock_text (b : Block) (h : b.WF) (multi : Bool) :
    convertBlock b.text multi = some (b.denote multi) := by
  have hpre : ∀ c ∈ b.pre.toList, Plain c ∧ isStrip c = true := fun c hc => by
    rcases pre_chars b h c hc with rfl | rfl <;> exact ⟨⟨by decide, by decide⟩, by decide⟩
  have hp : pnPieces b.text = b.toks.map Tok.piece := pnPieces_render _ b.first b.rest hpre h.2
  rw [convertBlock, hp, mapM_map_some Tok.piece convertPiece Tok.denote _ fun t ht => convertPiece_piece t (h.2 t ht),
    startsWith_text b h '+' (Or.inr rfl), startsWith_text b h '&' (Or.inl rfl)]
  -- the two tests left are `Block.denote`'s `sym`
  rfl

end Wheatley.RoundTrip
