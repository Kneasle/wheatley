/-
The main thread of the timed world when nothing arrives from the server: step lemmas for `World.run`.
-/
import Wheatley.Lemmas.NumField
import Wheatley.Lemmas.World
namespace Wheatley
open Generated
variable {K : Type} [Field K] [LinearOrder K] [IsStrictOrderedRing K]

theorem waitPlan_before (r : Reg K) (s now : K) (row place : Nat) (uc : Bool)
    (hs : r.start = .fin s) (h0 : s ≠ 0) (hlt : now < indexToRealTime (r.line s) row place) :
    r.waitPlan now row place uc = .sleep (indexToRealTime (r.line s) row place - now) := by
  unfold Reg.waitPlan
  simp only [hs, num_eqb, num_ofNat, Nat.cast_zero, decide_eq_true_eq, h0, if_false, hlt, if_true]

/-- `WaitForUserRhythm.wait_for_bell_time` notes the stroke being rung before anything else. -/
def World.markStroke (w : World K) (hand : Bool) : World K :=
  match w.rh.wait with
  | some wr => { w with rh := { w.rh with wait := some { wr with currentHand := hand } } }
  | none => w

theorem markStroke_delay (w : World K) (hand : Bool) : (w.markStroke hand).delay = w.delay := by
  unfold World.markStroke World.delay
  cases h : w.rh.wait with
  | none => dsimp only; rw [h]
  | some wr => rfl

/-- The rhythm is the real one, it stands on the line `l`, and the hold-up booked so far is `D`. -/
structure Anchored (l : Line K) (D : K) (rh : Rh K) : Prop where
  stub : rh.stub = none
  start : rh.reg.start = .fin l.start
  line : rh.reg.line l.start = l
  delay : rh.delay = D

theorem Frame.anchored {l : Line K} {D : K} {w w' : World K} (f : Frame w w') (h : Anchored l D w.rh) :
    Anchored l D w'.rh :=
  ⟨f.stub.trans h.stub, f.start.trans h.start,
    by rw [← h.line]; unfold Reg.line; rw [f.stage, f.gap, f.interval], f.delay.trans h.delay⟩

theorem solo_turn_begins (wt : K → K) (w : World K) (l : Line K) (D : K) (bell : Nat)
    (hpc : w.pc = .ringCheck) (hr : w.bot.isRinging = true) (ha : Anchored l D w.rh) (h0 : l.start ≠ 0)
    (hb : w.bot.tickBegin = some (bell, false))
    (hlt : w.now - D < indexToRealTime l w.bot.rowNumber w.bot.place) :
    ∃ wait, Anchored l D { w.rh with wait := wait } ∧
      w.mainStep wt = ({ w with rh := { w.rh with wait := wait }, pc := .innerSlept bell false w.bot.hand },
        .sleep (indexToRealTime l w.bot.rowNumber w.bot.place - (w.now - D))) := by
  obtain ⟨hstub, hs, hl, rfl⟩ := ha
  obtain ⟨wait, e1, hd, e2⟩ := beginWait_eq w bell false w.bot.hand
  rw [hstub, waitPlan_before w.rh.reg l.start (w.now - w.delay) _ _ false hs h0 (by rw [hl]; exact hlt), hl] at e2
  rw [mainStep_ringCheck wt w bell false hpc hr hb, e1, e2]
  exact ⟨wait, ⟨hstub, hs, hl, hd⟩, rfl⟩

theorem solo_turn_ends (wt : K → K) (w : World K) (l : Line K) (D : K) (bell : Nat) (hand : Bool)
    (hpc : w.pc = .innerSlept bell false hand) (ha : Anchored l D w.rh)
    (hnc : (w.bot.tickEnd bell false).2.findSome? isCrash = none) :
    ∃ w1 : World K, w.mainStep wt = (w1, .sleep (Num.ofQ tickSleep)) ∧
      Anchored l D w1.rh ∧ w1.now = w.now ∧ w1.bot = (w.bot.tickEnd bell false).1 ∧
      w1.obs = (w.bot.tickEnd bell false).2.reverse.map (fun o => ({ t := w.now, out := o } : Obs K)) ++ w.obs ∧
      w1.pc = .tickSlept := by
  -- up to `finishTick` only the rhythm's bookkeeping moves: `x` is `w` but for that
  obtain ⟨y, hm, fy, yo, -⟩ := mainStep_innerSlept wt w bell false hand hpc
  obtain ⟨x, e, fx, xo⟩ := afterInner_own wt y bell hand W0 false
  have f := fy.trans fx
  obtain ⟨z, hz, fz, zo⟩ := finishTick_alive wt x bell false (by rw [f.bot]; exact hnc)
  refine ⟨{ z with pc := .tickSlept }, by rw [hm, e, hz], fz.anchored (f.anchored ha), fz.now.trans f.now,
    fz.bot.trans (by rw [f.bot]), ?_, rfl⟩
  rw [zo, f.now, f.bot, xo, yo]

theorem run_sleep (wt : K → K) (endTime : K) (fuel : Nat) (w w1 : World K) (d t : K)
    (hstep : w.mainStep wt = (w1, .sleep d)) (ht : w1.now + d = t) (hend : t ≤ endTime) (hd : 0 < d) :
    World.run wt endTime (fuel + 1) w [] = World.run wt endTime fuel { w1 with now := t } [] := by
  subst ht
  rw [World.run, hstep]
  simp only [World.sleep, World.sleep.go, not_lt.mpr hend, lt_add_of_pos_right w1.now hd, if_false, if_true,
    Bool.false_eq_true]

theorem tickSleep_pos : (0 : K) < Num.ofQ tickSleep := by
  rw [num_ofQ, tickSleep]; norm_num

theorem poll_pos : (0 : K) < Num.ofQ waitSleepTime := by
  rw [num_ofQ, waitSleepTime]; norm_num

theorem solo_turn (wt : K → K) (endTime : K) (fuel : Nat) (w : World K) (l : Line K) (D : K) (bell : Nat)
    (hpc : w.pc = .ringCheck) (hr : w.bot.isRinging = true) (ha : Anchored l D w.rh) (h0 : l.start ≠ 0)
    (hb : w.bot.tickBegin = some (bell, false))
    (hlt : w.now - D < indexToRealTime l w.bot.rowNumber w.bot.place)
    (hend : indexToRealTime l w.bot.rowNumber w.bot.place + D + Num.ofQ tickSleep ≤ endTime)
    (hnc : (w.bot.tickEnd bell false).2.findSome? isCrash = none) :
    ∃ w' : World K,
      World.run wt endTime (fuel + 3) w [] = World.run wt endTime fuel w' [] ∧
      w'.pc = .ringCheck ∧ Anchored l D w'.rh ∧
      w'.now = indexToRealTime l w.bot.rowNumber w.bot.place + D + Num.ofQ tickSleep ∧
      w'.bot = (w.bot.tickEnd bell false).1 ∧
      w'.obs = (w.bot.tickEnd bell false).2.reverse.map
          (fun o => ({ t := indexToRealTime l w.bot.rowNumber w.bot.place + D, out := o } : Obs K)) ++ w.obs := by
  have htick := tickSleep_pos (K := K)
  -- asleep until the bell's time `T`: the clock then reads `T + D`
  obtain ⟨wait, a1, h1⟩ := solo_turn_begins wt w l D bell hpc hr ha h0 hb hlt
  generalize indexToRealTime l w.bot.rowNumber w.bot.place = T at h1 hlt hend ⊢
  have r1 := run_sleep wt endTime (fuel + 2) w _ _ (T + D) h1 (by ring)
    (le_of_add_le_of_nonneg_left hend htick.le) (sub_pos.mpr hlt)
  -- the strike and the row boundary, then the loop's 10 ms
  obtain ⟨w2, h2, a2, n2, b2, o2, p2⟩ := solo_turn_ends wt
    { w with rh := { w.rh with wait := wait }, pc := .innerSlept bell false w.bot.hand, now := T + D }
    l D bell w.bot.hand rfl a1 hnc
  have r2 := run_sleep wt endTime (fuel + 1) _ w2 _ (T + D + Num.ofQ tickSleep) h2 (by rw [n2]) hend htick
  refine ⟨{ w2 with now := T + D + Num.ofQ tickSleep, pc := .ringCheck }, ?_, rfl, a2, rfl, b2, o2⟩
  rw [r1, r2, World.run, World.mainStep]
  simp only [p2]

/-- The Bot rings its next `n` turns all by itself (every bell of those turns is Wheatley's, no
exception), each turn but the last is followed by one whose bell is due at least one blow later on the line `l`,
and the run lasts long enough (`endTime`) to see them. -/
def AloneFor (l : Line K) (D endTime : K) : Nat → Bot → Prop
  | 0, _ => True
  | n + 1, b =>
    b.isRinging = true ∧ indexToRealTime l b.rowNumber b.place + D + Num.ofQ tickSleep ≤ endTime ∧
    ∃ bell, b.tickBegin = some (bell, false) ∧
      (b.tickEnd bell false).2.findSome? isCrash = none ∧
      (n = 0 ∨ indexToBlowTime l b.rowNumber b.place + 1 ≤
          indexToBlowTime l (b.tickEnd bell false).1.rowNumber (b.tickEnd bell false).1.place) ∧
      AloneFor l D endTime n (b.tickEnd bell false).1

/-- What those turns put into the log (newest first): the outputs of each `tick()`, stamped with the
turn's time on the line plus the hold-up. -/
def soloLog (l : Line K) (D : K) : Nat → Bot → List (Obs K)
  | 0, _ => []
  | n + 1, b =>
    match b.tickBegin with
    | some (bell, _) =>
      soloLog l D n (b.tickEnd bell false).1 ++
        (b.tickEnd bell false).2.reverse.map
          (fun o => ({ t := indexToRealTime l b.rowNumber b.place + D, out := o } : Obs K))
    | none => []


end Wheatley
