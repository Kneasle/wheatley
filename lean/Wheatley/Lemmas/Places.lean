/-
What a parity-consistent change does to each place: named places are made, unnamed places swap in pairs.
-/
import Wheatley.Lemmas.Permute
namespace Wheatley

/-- Number of places in `[i, q)` that are *not* named in `P`. -/
def unmade (P : Places) (i q : Nat) : Nat :=
  ((List.range (q - i)).filter (fun d => !(P.contains (i + d)))).length

theorem unmade_self (P : Places) (i : Nat) : unmade P i i = 0 := by simp [unmade]

theorem unmade_one (P : Places) (i : Nat) : unmade P i (i + 1) = if i ∈ P then 0 else 1 := by
  by_cases h : i ∈ P <;> simp [unmade, h]

theorem unmade_add (P : Places) {i m q : Nat} (h1 : i ≤ m) (h2 : m ≤ q) :
    unmade P i q = unmade P i m + unmade P m q := by
  obtain ⟨a, rfl⟩ := Nat.exists_eq_add_of_le h1
  obtain ⟨b, rfl⟩ := Nat.exists_eq_add_of_le h2
  simp only [unmade, Nat.add_assoc, Nat.add_sub_cancel_left, Nat.add_sub_add_left]
  rw [List.range_add, List.filter_append, List.length_append, List.filter_map, List.length_map]
  rfl

theorem unmade_step (P : Places) (i q : Nat) (h : i < q) :
    unmade P i q = (if i ∈ P then 0 else 1) + unmade P (i + 1) q := by
  rw [unmade_add P (Nat.le_succ i) h, unmade_one]

theorem unmade_snoc (P : Places) (i q : Nat) (h : i ≤ q) :
    unmade P i (q + 1) = unmade P i q + (if q ∈ P then 0 else 1) := by
  rw [unmade_add P h (Nat.le_succ q), unmade_one]

theorem unmade_named {P : Places} {i q : Nat} (hi : i ∈ P) (h : i < q) : unmade P (i + 1) q = unmade P i q := by
  rw [unmade_step P i q h, if_pos hi, Nat.zero_add]

theorem unmade_unnamed {P : Places} {i q : Nat} (hi : i ∉ P) (hi1 : i + 1 ∉ P) (h : i + 2 ≤ q) :
    unmade P i q = unmade P (i + 2) q + 2 := by
  rw [unmade_step P i q (Nat.lt_of_succ_lt h), if_neg hi, unmade_step P (i + 1) q h, if_neg hi1,
    Nat.add_comm 1, Nat.add_comm 1]

/-- **Parity-consistent from place `i` on**: before every named place `q ≥ i` (within the stage) an
even number of places are unnamed — i.e. the unnamed places pair up. -/
def Consistent (stage : Nat) (P : Places) (i : Nat) : Prop :=
  ∀ q, q ∈ P → i ≤ q → q ≤ stage → unmade P i q % 2 = 0

theorem Consistent.named {stage i : Nat} {P : Places} (hc : Consistent stage P i) (hi : i ∈ P) :
    Consistent stage P (i + 1) :=
  fun q hq hiq hqs => unmade_named hi hiq ▸ hc q hq (Nat.le_of_succ_le hiq) hqs

theorem Consistent.unnamed {stage i : Nat} {P : Places} (hc : Consistent stage P i) (hi : i ∉ P)
    (hs : i < stage) : i + 1 ∉ P ∧ Consistent stage P (i + 2) := by
  have hn1 : i + 1 ∉ P := by
    intro hin
    have := hc (i + 1) hin (Nat.le_succ i) hs
    rw [unmade_one, if_neg hi] at this
    cases this
  refine ⟨hn1, fun q hq hiq hqs => ?_⟩
  have := hc q hq (Nat.le_of_succ_le (Nat.le_of_succ_le hiq)) hqs
  rwa [unmade_unnamed hi hn1 hiq, Nat.add_mod_right] at this

theorem Consistent.partner {stage i q : Nat} {P : Places} (hc : Consistent stage P i) (hiq : i ≤ q)
    (hqs : q ≤ stage) (hodd : unmade P i (q + 1) % 2 ≠ 0) : q ∉ P ∧ unmade P i q % 2 = 0 := by
  rw [unmade_snoc P i q hiq] at hodd
  by_cases hin : q ∈ P
  · rw [if_pos hin] at hodd; exact absurd (hc q hin hiq hqs) hodd
  · rw [if_neg hin] at hodd
    refine ⟨hin, (Nat.mod_two_eq_zero_or_one _).resolve_right fun h1 => hodd ?_⟩
    rw [Nat.add_mod, h1]

/-- With an even number of unnamed places between the loop's position `i` and `p = i + k`, in a change that is
parity-consistent from `i` on, the loop, if it gets that far, arrives at `p` and does not straddle it.

The place `p` and the offset `k` into the suffix are separate variables, and the row is spoken of through `[·]?`
only, so that the step past `a ::` is definitional. -/
theorem permuteAux_places (stage : Nat) (P : Places) (i : Nat) (l : Row) :
    Consistent stage P i → ∀ k p, p = i + k → unmade P i p % 2 = 0 →
      (p ∈ P → (permuteAux stage P i l)[k]? = l[k]?) ∧
      (p ∉ P → p < stage → l[k + 1]? ≠ none →
        (permuteAux stage P i l)[k]? = l[k + 1]? ∧ (permuteAux stage P i l)[k + 1]? = l[k]?) ∧
      (p ∉ P → p = stage ∨ l[k + 1]? = none → (permuteAux stage P i l)[k]? = l[k]?) := by
  fun_induction permuteAux stage P i l with
  | case1 i a b rest h1 h2 ih =>
    intro hc k p hp hev
    cases k with
    | zero => subst hp; exact ⟨fun _ => rfl, fun h => (h h2).elim, fun h => (h h2).elim⟩
    | succ k =>
      exact ih (hc.named h2) k p (hp.trans (Nat.add_right_comm i 1 k).symm)
        ((unmade_named h2 (hp ▸ Nat.lt_add_of_pos_right (Nat.succ_pos k))).symm ▸ hev)
  | case2 i a b rest h1 h2 ih =>
    intro hc k p hp hev
    obtain ⟨hn1, hc'⟩ := hc.unnamed h2 h1
    rcases k with _ | _ | k
    · subst hp
      exact ⟨fun h => (h2 h).elim, fun _ _ _ => ⟨rfl, rfl⟩,
        fun _ h => h.elim (fun e => (Nat.ne_of_lt h1 e).elim) (fun e => nomatch e)⟩
    · subst hp; rw [unmade_one, if_neg h2] at hev; cases hev
    · have hp' : p = i + 2 + k := hp.trans (Nat.add_right_comm i 2 k).symm
      rw [unmade_unnamed h2 hn1 (hp' ▸ Nat.le_add_right (i + 2) k), Nat.add_mod_right] at hev
      exact ih hc' k p hp' hev
  | case3 i a b rest h1 =>
    intro _ k p hp _
    exact ⟨fun _ => rfl, fun _ hlt => (h1 (Nat.lt_of_le_of_lt (hp ▸ Nat.le_add_right i k) hlt)).elim, fun _ _ => rfl⟩
  | case4 i l h =>
    intro _ k _ _ _
    refine ⟨fun _ => rfl, fun _ _ hne => (hne ?_).elim, fun _ _ => rfl⟩
    rcases l with _ | ⟨a, _ | ⟨b, rest⟩⟩
    · rfl
    · rfl
    · exact (h a b rest rfl).elim

/-- `j` is the 0-based position of place `j + 1`. -/
theorem permute_places (stage : Nat) (row : Row) (P : Places) (hc : Consistent stage P (firstPlace P)) (j : Nat)
    (h1 : firstPlace P ≤ j + 1) (hev : unmade P (firstPlace P) (j + 1) % 2 = 0) :
    (j + 1 ∈ P → (permute stage row P)[j]? = row[j]?) ∧
    (j + 1 ∉ P → j + 1 < stage → row[j + 1]? ≠ none →
      (permute stage row P)[j]? = row[j + 1]? ∧ (permute stage row P)[j + 1]? = row[j]?) ∧
    (j + 1 ∉ P → j + 1 = stage ∨ row[j + 1]? = none → (permute stage row P)[j]? = row[j]?) := by
  rcases permute_cases stage row P with ⟨e, hf | rfl⟩ | ⟨a, rest, rfl, hf, e⟩ <;> rw [e]
  · rw [hf] at hc h1 hev
    exact permuteAux_places stage P 1 row hc j (j + 1) (Nat.add_comm ..) hev
  · exact ⟨fun _ => rfl, fun _ _ h => (h rfl).elim, fun _ _ => rfl⟩
  · rw [hf] at hc h1 hev
    obtain ⟨k, rfl⟩ : ∃ k, j = k + 1 := ⟨j - 1, (Nat.sub_add_cancel (Nat.le_of_succ_le_succ h1)).symm⟩
    exact permuteAux_places stage P 2 rest hc k (k + 1 + 1) (Nat.add_comm k 2) hev

theorem permute_below_first (stage : Nat) (row : Row) (P : Places) (j : Nat) (h : j + 1 < firstPlace P) :
    (permute stage row P)[j]? = row[j]? := by
  rcases permute_cases stage row P with ⟨e, hf | rfl⟩ | ⟨a, rest, rfl, hf, e⟩ <;> rw [e]
  · rw [hf] at h
    exact absurd h (Nat.not_lt_zero _ ∘ Nat.lt_of_succ_lt_succ)
  · rfl
  · rw [hf] at h
    obtain rfl : j = 0 := Nat.le_zero.mp (Nat.le_of_lt_succ (Nat.lt_of_succ_lt_succ h))
    rfl

theorem permute_keeps (stage : Nat) (row : Row) (P : Places) (hc : Consistent stage P (firstPlace P)) (j : Nat)
    (h : j + 1 < firstPlace P ∨ stage < j + 1 ∨ j + 1 ∈ P) : (permute stage row P)[j]? = row[j]? := by
  by_cases hf : j + 1 < firstPlace P
  · exact permute_below_first stage row P j hf
  by_cases hs : stage < j + 1
  · exact permute_getElem?_of_le stage row P (Nat.le_of_lt_succ hs)
  have hp := (h.resolve_left hf).resolve_left hs
  have hf := Nat.le_of_not_lt hf
  exact (permute_places stage row P hc j hf (hc _ hp hf (Nat.le_of_not_lt hs))).1 hp

end Wheatley
