/-
Lifting an invariant of the regression rhythm to the timed world.

The regression rhythm object changes in six ways only: a strike is reported to it (`on_bell_ring`), a line is
initialised (`initialise_line`), a bell is expected (`expect_bell`), the peal speed or the inertia is set
(`change_setting`), its return flag is set or cleared.  A predicate that these preserve therefore holds of the rhythm
in every state of every run - for *all* events, the sleeping Look To handler included.
-/
import Wheatley.Lemmas.Lift
namespace Wheatley
variable {K : Type} [Num K]

structure RegInvariant (P : Reg K → Prop) : Prop where
  bellRing : ∀ (r : Reg K) (wt : K → K) (g : List (K × K × K) → K × K) (bell : Nat) (hand : Bool) (t : K),
    P r → P (r.onBellRing wt g bell hand t)
  init : ∀ (r : Reg K) (g : List (K × K × K) → K × K) (stage : Nat) (ut : Bool) (t : K),
    P r → P (r.initialiseLine g stage ut t)
  expect : ∀ (r : Reg K) (bell row place : Nat) (hand : Bool), P r → P (r.expect bell row place hand)
  speed : ∀ (r : Reg K) (s t : K), P r → P (r.changePealSpeed s t)
  flag : ∀ (r : Reg K) (b : Bool), P r → P { r with shouldReturn := b }
  inertia : ∀ (r : Reg K) (x : K), P r → P { r with preferredInertia := x }

namespace RegInvariant
variable {P : Reg K → Prop}

theorem told (h : RegInvariant P) {wt : K → K} {r r' : Reg K} {o : Out} (ht : Reg.Told wt r o r') (hp : P r) : P r' := by
  cases ht with
  | skip => exact hp
  | flag => exact h.flag r true hp
  | init g stage ut n t => exact h.init r g stage ut t hp
  | expect bell row place hand => exact h.expect r bell row place hand hp
  | ring g bell hand t => exact h.bellRing r wt g bell hand t hp
  | speed key v s t => exact h.speed r s t hp
  | inertia key v x => exact h.inertia r x hp

theorem finishTick (h : RegInvariant P) (wt : K → K) (w : World K) (bell : Nat) (uc : Bool) (hp : P w.rh.reg) :
    P (w.finishTick wt bell uc).1.rh.reg := by
  rw [finishTick_fst, ran_rh]
  exact foldl_applyOut_rh wt _ (P := fun rh => P rh.reg) (Q := fun _ => True)
    (fun _ _ _ _ _ hp ht _ => h.told ht hp) _ _ (fun _ _ _ => trivial) hp

theorem afterInner (h : RegInvariant P) (wt : K → K) (w : World K) (bell : Nat) (uc hand : Bool) (d : K) (js : Bool)
    (hp : P w.rh.reg) : P (w.afterInner wt bell uc hand d js).1.rh.reg := by
  rcases afterInner_cases wt w bell uc hand d js with ⟨_, _, _, _, h'⟩ | ⟨wait, _, h'⟩
  · rw [h']; exact hp
  · rw [h']; exact h.finishTick wt _ bell uc hp

theorem world (h : RegInvariant P) (wt : K → K) : WorldInvariant wt (fun w : World K => P w.rh.reg) (fun _ => True) where
  clock := fun _ _ hp => hp
  main := fun w hp =>
    let ⟨_, _, hs⟩ := mainStep_does wt w
    hs.rh (fun rh => P rh.reg) (fun _ h' => h.flag _ false h') (fun _ _ h' => h')
      (fun _ _ _ _ _ h' ht _ => h.told ht h') hp
  deliver := fun w e _ hp =>
    deliver_rh wt w e (P := fun rh => P rh.reg) (fun _ _ _ _ _ h' ht _ => h.told ht h') hp

theorem run (h : RegInvariant P) (wt : K → K) (endTime : K) :
    ∀ (fuel : Nat) (w : World K) (events : List (K × Ev)), P w.rh.reg →
      P (World.run wt endTime fuel w events).1.rh.reg :=
  fun fuel w events hp => (h.world wt).run endTime fuel w events (fun _ _ => trivial) hp

end RegInvariant
end Wheatley
