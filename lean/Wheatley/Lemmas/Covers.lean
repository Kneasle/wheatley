/-
While the method is being rung in a tower that keeps its size, the row the Bot rings is the generator's current row
followed by the opening row's tail: the bells above the generator's row cover, each in the place the opening row gave
it.  (For C03's system-level theorem; built on the invariants of `Complete` and `MethodRows`.)
-/
import Wheatley.Lemmas.Complete
namespace Wheatley
namespace Covers
open MethodRows

/-- `MethodRows.Inv.row` says only that the row being rung begins with the generator's row. -/
def K (b : Bot) : Prop := InMethod b → b.row = b.gen.row ++ b.openingRow.drop b.gen.row.length

def J (N : Nat) (b : Bot) : Prop := Complete.Inv N b ∧ MethodRows.Inv b ∧ K b

def E (N : Nat) (e : Ev) : Prop := Complete.Fixed N e ∧ MethodRows.Sel e

theorem tick_K (b : Bot) (bell : Nat) (uc : Bool) (ht : Total b.gen.kind) (h : K b) : K (b.tickEnd bell uc).1 := by
  intro hm
  have ho : (b.tickEnd bell uc).1.openingRow = b.openingRow := by
    obtain ⟨c, p, g, cs, r, e, -⟩ := tickEnd_frame b bell uc; rw [e]; rfl
  rw [ho]
  rcases tickEnd_total ht hm with ⟨hb, e1, e2⟩ | e1
  · rw [e1, e2]; exact h hb
  · exact e1

theorem msg_K (N : Nat) (b : Bot) (m : Msg) (hm : Complete.Fixed N (.msg m)) (hc : Complete.Inv N b) (h : K b) :
    K (b.onMsg m).1 := by
  have hr := onMsg_handles b m
  generalize b.onMsg m = p at hr
  induction hr with
  | resize m hm' op hop =>
    -- the tower keeps its size, so the opening row is computed anew to the same
    rw [Complete.see_n hm hc.1.size] at hop
    obtain rfl : op = b.openingRow := Option.some.inj (hop.symm.trans hc.1.op)
    exact h
  | lookTo => exact fun hmm => absurd hmm (not_inMethod_firstRow b)
  | rounds => exact fun hmm => nomatch hmm.2.1
  | stop => exact fun hmm => nomatch hmm.1
  | _ => exact h

theorem botInvariant (N : Nat) : BotInvariant (J N) (E N) :=
  .ofFirstRow
    (fun b h => ⟨Complete.firstRow_inv N b h.1, MethodRows.firstRow_inv b h.2.1,
      fun hmm => absurd hmm (not_inMethod_firstRow b)⟩)
    (fun b bell uc h =>
      ⟨Complete.tick_inv N b bell uc h.1, MethodRows.tick_inv b bell uc h.2.1, tick_K b bell uc h.2.1.total h.2.2⟩)
    (fun b m he h =>
      ⟨Complete.msg_inv N b m he.1 h.1, MethodRows.msg_inv b m he.2 h.2.1, msg_K N b m he.1 h.1 h.2.2⟩)

end Covers
end Wheatley
