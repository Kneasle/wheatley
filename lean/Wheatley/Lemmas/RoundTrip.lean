/-
The string functions of `convert_pn` (`Model/PN.lean`) one at a time: `split`, `replace("..", ".")`, the
`re.sub` of the crosses and `strip`.  For each, the equations of its definition and what it does to input of
the shape a written notation has.  Notations themselves come in `RoundTripTok.lean` (a block as tokens, cut into
pieces again) and `RoundTripG.lean` (what the pieces denote; prefixes and commas).
-/
import Wheatley.Model.Gen
namespace Wheatley.RoundTrip

theorem copies_prefix {f : List Char → List Char} {P : Char → Prop}
    (step : ∀ c cs, P c → f (c :: cs) = c :: f cs) (p rest : List Char) (h : ∀ c ∈ p, P c) :
    f (p ++ rest) = p ++ f rest := by
  induction p with
  | nil => rfl
  | cons c cs ih =>
    obtain ⟨hc, hcs⟩ := List.forall_mem_cons.mp h
    rw [List.cons_append, step c _ hc, ih hcs, List.cons_append]

theorem mapM_map_some {α β γ : Type} (f : α → β) (g : β → Option γ) (h : α → γ) (l : List α)
    (H : ∀ x ∈ l, g (f x) = some (h x)) : (l.map f).mapM g = some (l.map h) := by
  induction l with
  | nil => rfl
  | cons a r ih =>
    obtain ⟨ha, hr⟩ := List.forall_mem_cons.mp H
    rw [List.map_cons, List.mapM_cons, ha, ih hr]
    rfl

theorem mapM_isSome {α β} (f : α → Option β) (l : List α) (h : ∀ a ∈ l, (f a).isSome) :
    (l.mapM f).isSome := by
  induction l with
  | nil => rfl
  | cons a r ih =>
    obtain ⟨v, hv⟩ := Option.isSome_iff_exists.mp (h a List.mem_cons_self)
    obtain ⟨vs, hvs⟩ := Option.isSome_iff_exists.mp (ih fun x hx => h x (List.mem_cons_of_mem _ hx))
    rw [List.mapM_cons, hv, hvs]
    rfl

/-! ### `str.split(sep)` -/

theorem splitOn_nosep (sep : Char) (p : List Char) (h : sep ∉ p) : splitOn sep p = [p] := by
  induction p with
  | nil => rfl
  | cons c cs ih =>
    rw [splitOn, if_neg (List.ne_of_not_mem_cons h).symm, ih (List.not_mem_of_not_mem_cons h)]

theorem splitOn_append (sep : Char) (p rest : List Char) (h : sep ∉ p) :
    splitOn sep (p ++ sep :: rest) = p :: splitOn sep rest := by
  induction p with
  | nil => rw [List.nil_append, splitOn, if_pos rfl]
  | cons c cs ih =>
    rw [List.cons_append, splitOn, if_neg (List.ne_of_not_mem_cons h).symm, ih (List.not_mem_of_not_mem_cons h)]

/-- `sep.join(pieces)` -/
def joinWith (sep : Char) : List (List Char) → List Char
  | [] => []
  | [p] => p
  | p :: q :: rest => p ++ sep :: joinWith sep (q :: rest)

theorem splitOn_joinWith (sep : Char) (ps : List (List Char)) (hne : ps ≠ [])
    (h : ∀ p ∈ ps, sep ∉ p) : splitOn sep (joinWith sep ps) = ps := by
  fun_induction joinWith sep ps with
  | case1 => exact absurd rfl hne
  | case2 p => exact splitOn_nosep sep p (h p List.mem_cons_self)
  | case3 p q rest ih =>
    obtain ⟨hp, hrest⟩ := List.forall_mem_cons.mp h
    rw [splitOn_append sep p _ hp, ih (List.cons_ne_nil _ _) hrest]

theorem joinWith_contains (sep : Char) (p q : List Char) (rest : List (List Char)) :
    (joinWith sep (p :: q :: rest)).contains sep = true :=
  List.contains_iff_mem.mpr (List.mem_append_right p List.mem_cons_self)

/-! ### `replace("..", ".")` -/

theorem dedup_dotdot (cs : List Char) : dedupDots ('.' :: '.' :: cs) = '.' :: dedupDots cs :=
  dedupDots.eq_1 cs

theorem dedup_cons (c : Char) (cs : List Char) (h : c ≠ '.') : dedupDots (c :: cs) = c :: dedupDots cs :=
  dedupDots.eq_2 c cs fun _ e _ => h e

theorem dedup_dot_then (c : Char) (cs : List Char) (h : c ≠ '.') :
    dedupDots ('.' :: c :: cs) = '.' :: dedupDots (c :: cs) :=
  dedupDots.eq_2 '.' (c :: cs) fun _ _ e => h (List.cons.inj e).1

theorem dedup_dotfree (p rest : List Char) (h : '.' ∉ p) : dedupDots (p ++ rest) = p ++ dedupDots rest :=
  copies_prefix dedup_cons p rest fun _ hc e => h (e ▸ hc)

theorem dedup_nodot (p : List Char) (h : '.' ∉ p) : dedupDots p = p := by
  have := dedup_dotfree p [] h
  rwa [List.append_nil, dedupDots, List.append_nil] at this

/-! ### `re.sub("[.]*[x-][.]*", ".-.", s)` -/

theorem dropDots_dot (cs : List Char) : dropDots ('.' :: cs) = dropDots cs :=
  dropDots.eq_1 cs

theorem dropDots_cons_of_ne (c : Char) (cs : List Char) (h : c ≠ '.') : dropDots (c :: cs) = c :: cs :=
  dropDots.eq_2 _ fun _ e => h (List.cons.inj e).1

theorem dropDots_length (s : List Char) : (dropDots s).length ≤ s.length := by
  fun_induction dropDots s with
  | case1 cs ih => exact Nat.le_succ_of_le ih
  | case2 l _ => exact Nat.le_refl _

theorem dropDots_lt {s rest : List Char} {d : Char} (h : dropDots s = d :: rest) :
    (dropDots rest).length < s.length :=
  calc (dropDots rest).length ≤ rest.length := dropDots_length rest
    _ < (d :: rest).length := Nat.lt_succ_self _
    _ ≤ s.length := h ▸ dropDots_length s

theorem subCrossAux_fuel (n : Nat) : ∀ (m : Nat) (s : List Char), s.length ≤ n → s.length ≤ m →
    subCrossAux n s = subCrossAux m s := by
  induction n with
  | zero =>
    intro m s hn _
    cases s with
    | nil => cases m <;> rfl
    | cons => cases hn
  | succ n ih =>
    intro m s hn hm
    cases s with
    | nil => cases m <;> rfl
    | cons c cs =>
      cases m with
      | zero => cases hm
      | succ m =>
        have hn := Nat.le_of_succ_le_succ hn
        have hm := Nat.le_of_succ_le_succ hm
        rw [subCrossAux, subCrossAux, ih m cs hn hm]
        cases hd : dropDots (c :: cs) with
        | nil => rfl
        | cons d rest =>
          have hr := Nat.le_of_lt_succ (dropDots_lt hd)
          -- reduces the `match` on `d :: rest`
          simp only []
          rw [ih m _ (Nat.le_trans hr hn) (Nat.le_trans hr hm)]

theorem subCross_cons (c : Char) (cs : List Char) :
    subCross (c :: cs) =
      match dropDots (c :: cs) with
      | d :: rest => if isCross d then '.' :: '-' :: '.' :: subCross (dropDots rest) else c :: subCross cs
      | [] => c :: subCross cs := by
  unfold subCross
  rw [List.length_cons, subCrossAux]
  cases hd : dropDots (c :: cs) with
  | nil => rfl
  | cons d rest =>
    simp only []
    rw [subCrossAux_fuel cs.length (dropDots rest).length _ (Nat.le_of_lt_succ (dropDots_lt hd)) (Nat.le_refl _)]

theorem subCross_nil : subCross [] = [] := rfl

theorem subCross_of_cross {s rest : List Char} {d : Char} (h : dropDots s = d :: rest) (hd : isCross d = true) :
    subCross s = '.' :: '-' :: '.' :: subCross (dropDots rest) := by
  cases s with
  | nil => cases h
  | cons c cs => rw [subCross_cons, h]; exact if_pos hd

theorem subCross_of_not_cross {c d : Char} {cs rest : List Char} (h : dropDots (c :: cs) = d :: rest)
    (hd : isCross d = false) : subCross (c :: cs) = c :: subCross cs := by
  rw [subCross_cons, h]; exact if_neg (by rw [hd]; exact Bool.false_ne_true)

def Plain (c : Char) : Prop := c ≠ '.' ∧ isCross c = false

theorem subCross_plains (p rest : List Char) (h : ∀ c ∈ p, Plain c) : subCross (p ++ rest) = p ++ subCross rest :=
  copies_prefix (fun c cs hc => subCross_of_not_cross (dropDots_cons_of_ne c cs hc.1) hc.2) p rest h

theorem subCross_dot_plains (p rest : List Char) (hne : p ≠ []) (h : ∀ c ∈ p, Plain c) :
    subCross ('.' :: (p ++ rest)) = '.' :: (p ++ subCross rest) := by
  cases p with
  | nil => exact absurd rfl hne
  | cons c cs =>
    have hc := h c List.mem_cons_self
    rw [List.cons_append, subCross_of_not_cross ((dropDots_dot _).trans (dropDots_cons_of_ne c _ hc.1)) hc.2,
      ← List.cons_append, subCross_plains _ _ h]

def dots (n : Nat) : List Char := List.replicate n '.'

theorem dropDots_dots (n : Nat) (rest : List Char) : dropDots (dots n ++ rest) = dropDots rest := by
  induction n with
  | zero => rfl
  | succ k ih => exact (dropDots_dot _).trans ih

theorem cross_ne_dot (sym : Char) (h : isCross sym = true) : sym ≠ '.' := by
  intro e; subst e; cases h

theorem subCross_cross (b : Nat) (sym : Char) (rest : List Char) (h : isCross sym = true) :
    subCross (dots b ++ sym :: rest) = '.' :: '-' :: '.' :: subCross (dropDots rest) :=
  subCross_of_cross ((dropDots_dots b _).trans (dropDots_cons_of_ne sym rest (cross_ne_dot sym h))) h

/-! ### `s.strip(".&+ ")` -/

def isStrip (c : Char) : Bool := stripSet.contains c

theorem ne_dot_of_not_strip {c : Char} (h : isStrip c = false) : c ≠ '.' :=
  fun e => absurd (e ▸ h) (by decide)

theorem dropWhile_pad {p : Char → Bool} {a m xs : List Char} {x : Char} (ha : ∀ c ∈ a, p c = true)
    (hm : m = x :: xs) (hx : p x = false) : (a ++ m).dropWhile p = m := by
  rw [List.dropWhile_append_of_pos ha, hm, List.dropWhile_cons_of_neg (by rw [hx]; exact Bool.false_ne_true)]

theorem strip_core (a b m : List Char) (x y : Char) (xs ys : List Char)
    (ha : ∀ c ∈ a, isStrip c = true) (hb : ∀ c ∈ b, isStrip c = true)
    (hm1 : m = x :: xs) (hm2 : m = ys ++ [y])
    (hx : isStrip x = false) (hy : isStrip y = false) :
    stripPN (a ++ m ++ b) = m := by
  have h1 : m ++ b = x :: (xs ++ b) := by rw [hm1]; rfl
  have h2 : m.reverse = y :: ys.reverse := by rw [hm2, List.reverse_append]; rfl
  rw [stripPN, List.append_assoc, dropWhile_pad (p := (stripSet.contains ·)) ha h1 hx, List.reverse_append,
    dropWhile_pad (p := (stripSet.contains ·)) (fun c hc => hb c (List.mem_reverse.mp hc)) h2 hy, List.reverse_reverse]

end Wheatley.RoundTrip
