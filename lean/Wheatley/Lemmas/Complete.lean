/-
Complete rows as an invariant of the Bot (for C01's system-level theorem): while the tower keeps its size, the Bot's
row is a rearrangement of the tower's bells whenever Wheatley is ringing - through every handler, every Look To
(gated or not), every `start_next_row`.
-/
import Wheatley.Lemmas.StartRow
import Wheatley.Lemmas.MethodRows
namespace Wheatley
namespace Complete

/-- What a generator's configuration must satisfy for its rows to be rearrangements of its start row: nothing for
the notation- and rule-driven kinds (`permute` never loses a bell), for a composition every row of the payload - and
the rounds it falls back to when the payload is exhausted - is one; a placeholder never produces a row. -/
def GoodKind (k : GenKind) (sr : Row) : Prop :=
  match k with
  | .comp c => (∀ p ∈ c.rows, p.1.Perm sr) ∧ (rounds c.stage).Perm sr
  | _ => True

def GoodGen (g : Gen) : Prop := g.row.Perm g.startRow ∧ GoodKind g.kind g.startRow

theorem GoodGen.next {g : Gen} (h : GoodGen g) {hand : Bool} {g' : Gen} {r : Row} {calls : List String}
    (hn : g.next hand = .ok g' r calls) : r.Perm g.startRow ∧ GoodGen g' := by
  obtain ⟨k1, k2, k3⟩ := Gen.next_keeps hn
  have key : r.Perm g.startRow := by
    cases hk : g.kind with
    | comp c =>
      -- not from `permute`: a row of the payload, or the rounds it falls back to
      have h2 := h.2
      rw [hk] at h2
      rw [Gen.next_comp hk] at hn
      cases hn
      cases hi : c.rows[g.index]? with
      | none => exact h2.2
      | some p => exact h2.1 p (List.mem_of_getElem? hi)
    | placeholder => unfold Gen.next at hn; rw [hk] at hn; cases hn
    | _ =>
      obtain ⟨places, rfl⟩ := Gen.next_permuting (show g.kind.permuting = true by rw [hk]; rfl) hn
      exact (permute_perm g.stage g.row places).trans h.1
  exact ⟨key, by rw [k1, k2]; exact key, by rw [k3, k2]; exact h.2⟩

theorem GoodGen.reset {g : Gen} (h : GoodGen g) : GoodGen g.reset := ⟨List.Perm.refl _, h.2⟩

theorem rounds_prefix (s N : Nat) (h : s ≤ N) : rounds s <+: rounds N := by
  obtain ⟨k, rfl⟩ := Nat.exists_eq_add_of_le h
  refine ⟨(List.range' s k).map (· + 1), ?_⟩
  simp only [rounds, List.range_eq_range', ← List.map_append]
  congr 1
  have := List.range'_append_1 (s := 0) (m := s) (n := k)
  simpa using this

theorem opening_extends (stage n : Nat) (cs : Option Row) (sr op : Row) (hle : stage ≤ n)
    (hs : startingRow stage cs = some sr) (ho : startingRow n cs = some op) : sr <+: op := by
  rcases startingRow_eq_some hs with ⟨rfl, rfl⟩ | ⟨c, rfl, hd, rfl⟩
  · obtain rfl : rounds n = op := Option.some.inj ho
    exact rounds_prefix stage n hle
  · obtain rfl : appendMissing n c = op := by simpa [startingRow, hd] using ho
    obtain ⟨t, ht⟩ := rounds_prefix stage n hle
    show c ++ (rounds stage).filter _ <+: c ++ (rounds n).filter _
    rw [← ht, List.filter_append, ← List.append_assoc]
    exact List.prefix_append _ _

def Started (N : Nat) (g : Gen) : Prop :=
  startingRow g.stage g.customStart = some g.startRow ∧ g.stage ≤ N ∧
  (∀ c, g.customStart = some c → ∀ x ∈ c, 1 ≤ x ∧ x ≤ N)

theorem Started.of_cfg {N : Nat} {g g' : Gen} (h : Started N g) (hc : g'.cfg = g.cfg) : Started N g' := by
  unfold Started Gen.stage
  rw [Gen.cfg_kind hc, Gen.cfg_customStart hc, Gen.cfg_startRow hc]
  exact h

/-- A selection as Ringing Room's server mode makes them: complete rows, no custom start row, at most `N` bells. -/
def GoodSel (N : Nat) (g : Gen) : Prop :=
  GoodGen g ∧ g.startRow = rounds g.stage ∧ g.stage ≤ N ∧ g.customStart = none

theorem GoodSel.started {N : Nat} {g : Gen} (h : GoodSel N g) : Started N g := by
  obtain ⟨_, h2, h3, h4⟩ := h
  refine ⟨?_, h3, ?_⟩
  · rw [h4, h2]; rfl
  · intro c hc; rw [h4] at hc; cases hc

/-- The part of the invariant that does not depend on whether Wheatley is ringing.  `srv` and `queued` are there for
Look To, which makes the queued selection current and keeps the opening row: a selection is queued in server mode only,
where neither it nor the current generator has a custom start row, so the opening row is that of the new generator
too (`armLookTo_static`). -/
structure Static (N : Nat) (b : Bot) : Prop where
  size : b.n = N
  rounds : b.rounds = Wheatley.rounds N
  op : startingRow N b.gen.customStart = some b.openingRow
  gen : GoodGen b.gen
  started : Started N b.gen
  srv : b.serverMode = true → b.gen.customStart = none
  queued : ∀ g, b.nextGen = some g → GoodSel N g ∧ b.serverMode = true

theorem Static.opening {N : Nat} {b : Bot} (h : Static N b) : b.openingRow.Perm (Wheatley.rounds N) :=
  startingRow_perm N _ _ h.op h.started.2.2

theorem Static.startRow_prefix {N : Nat} {b : Bot} (h : Static N b) : b.gen.startRow <+: b.openingRow :=
  opening_extends _ _ _ _ _ h.started.2.1 h.started.1 h.op

theorem padded_perm (r sr op : Row) (hperm : r.Perm sr) (hpre : sr <+: op) : (padded r op).Perm op := by
  obtain ⟨t, rfl⟩ := hpre
  rw [pad_eq, hperm.length_eq, List.drop_left' rfl]
  exact hperm.append_right t

theorem generateNextRow_static (N : Nat) (b : Bot) (h : Static N b) :
    Static N (b.generateNextRow).1 ∧ (b.generateNextRow).1.isRinging = b.isRinging ∧
    ((b.generateNextRow).1.row.Perm (rounds N) ∨ (b.generateNextRow).1.row = b.row) := by
  rcases generateNextRow_cases b with ⟨_, e⟩ | ⟨_, _, e⟩ | ⟨_, _, g', r, calls, hn, e⟩ | ⟨_, _, _, _, _, e⟩ <;> rw [e]
  -- `{ h with }`: `Static` reads none of the fields that have changed, so the fields of `h` are those wanted
  · exact ⟨{ h with }, rfl, Or.inl h.opening⟩
  · exact ⟨{ h with }, rfl, Or.inl (by rw [show b.rounds = _ from h.rounds])⟩
  · obtain ⟨hr, hg'⟩ := h.gen.next hn
    have hcfg := Gen.next_cfg hn
    have hcs := Gen.cfg_customStart hcfg
    refine ⟨?_, rfl, Or.inl ((padded_perm r b.gen.startRow b.openingRow hr h.startRow_prefix).trans h.opening)⟩
    exact { h with op := hcs ▸ h.op, gen := hg', started := h.started.of_cfg hcfg,
                   srv := fun hsm => hcs.trans (h.srv hsm) }
  · exact ⟨h, rfl, Or.inr rfl⟩

theorem startNextRow_static (N : Nat) (b : Bot) (f : Bool) (h : Static N b) :
    Static N (b.startNextRow f).1 ∧ ((b.startNextRow f).1.isRinging = true → b.isRinging = true) ∧
    ((b.startNextRow f).1.row.Perm (rounds N) ∨ (b.startNextRow f).1.row = b.row) := by
  rcases startNextRow_cases b f with ⟨_, e⟩ | ⟨c, s, hstep, e⟩ <;> rw [e]
  · exact ⟨{ h with }, id, Or.inr rfl⟩
  · have hq : Static N (b.boundary c s) ∧ (b.boundary c s).row = b.row ∧ (b.boundary c s).isRinging = c.isRinging := by
      rw [boundary_eq]
      cases s
      · exact ⟨{ h with }, rfl, rfl⟩
      · exact ⟨{ h with gen := h.gen.reset }, rfl, rfl⟩
    obtain ⟨hs, hrow, hri⟩ := hq
    have hring : (b.boundary c s).isRinging = true → b.isRinging = true := fun hr => by
      obtain ⟨rfl, -⟩ := ctlStep_ok hstep
      exact ite_false_else (hri ▸ hr)
    rw [snrFinish_fst]
    split
    · obtain ⟨f1, f2, f3⟩ := generateNextRow_static N _ hs
      exact ⟨f1, fun hr => hring (f2 ▸ hr), f3.imp id (·.trans hrow)⟩
    · exact ⟨hs, hring, Or.inr hrow⟩

def Inv (N : Nat) (b : Bot) : Prop := Static N b ∧ (b.isRinging = true → b.row.Perm (rounds N))

theorem armLookTo_static (N : Nat) (b : Bot) (h : Static N b) : Static N b.armLookTo := by
  unfold Bot.armLookTo
  cases hn : b.nextGen with
  | none =>
    exact { h with queued := fun _ hg => nomatch hg }
  | some g =>
    obtain ⟨hg, hsm⟩ := h.queued g hn
    have hcs : b.gen.customStart = none := h.srv hsm
    exact { h with
            op := (by show startingRow N g.customStart = some b.openingRow; rw [hg.2.2.2, ← hcs]; exact h.op),
            gen := hg.1, started := hg.started, srv := (fun _ => hg.2.2.2),
            queued := fun _ hg => nomatch hg }

theorem firstRow_inv (N : Nat) (b : Bot) (h : Inv N b) : Inv N b.firstRow :=
  -- the row of `b.firstRow` is the opening row
  ⟨{ armLookTo_static N b h.1 with }, fun _ => h.1.opening⟩

theorem tick_inv (N : Nat) (b : Bot) (bell : Nat) (uc : Bool) (h : Inv N b) : Inv N (b.tickEnd bell uc).1 := by
  have hmid : Inv N { b with place := b.place + 1 } := ⟨{ h.1 with }, h.2⟩
  obtain ⟨f1, f2, f3⟩ := startNextRow_static N _ false hmid.1
  exact tickEnd_fst b bell uc hmid ⟨f1, fun hr => f3.elim id (fun e' => by rw [e']; exact h.2 (f2 hr))⟩

/-- Messages that leave the tower at `N` bells, and selections that fit it: strikes and global states (the bells set
at hand, a reconnection) carry a state of `N` bells, a size message repeats the size, a selected method or
composition has at most `N` bells, starts from rounds and has complete rows.  Everything else - calls, assignments, comings and goings, settings, Stop Touch - is unrestricted. -/
def Fixed (N : Nat) : Ev → Prop
  | .msg (.bellRung st _) => st.length = N
  | .msg (.globalState st) => st.length = N
  | .msg (.sizeChange n) => n = N
  | .msg (.rowGen (some g)) => GoodSel N g
  | _ => True

theorem see_n {N : Nat} {b : Bot} {m : Msg} (hm : Fixed N (.msg m)) (h : b.n = N) : (b.see m).n = N := by
  have := b.tower.apply_size m
  cases m with
  | bellRung st who => exact this.trans hm
  | globalState st => exact this.trans hm
  | sizeChange n => exact this.trans hm
  | _ => exact this.trans h

theorem msg_inv (N : Nat) (b : Bot) (m : Msg) (hm : Fixed N (.msg m)) (h : Inv N b) : Inv N (b.onMsg m).1 := by
  have hsee := see_n hm h.1.size
  have hst : Static N (b.see m) := { h.1 with size := hsee }
  have hr := onMsg_handles b m
  generalize b.onMsg m = p at hr
  induction hr with
  | resize m _ op hop =>
    rw [hsee] at hop
    exact ⟨{ hst with rounds := by rw [← hsee], op := hop,
                      queued := fun g hg => h.1.queued g (Option.eq_some_of_filter_eq_some hg) }, h.2⟩
  | lookTo => exact firstRow_inv N b h
  | select g hs =>
    exact ⟨{ h.1 with queued := fun g' hg' => by injection hg' with hg'; subst hg'; exact ⟨hm, hs⟩ }, h.2⟩
  | stop => exact ⟨{ h.1 with }, fun hr => nomatch hr⟩
  | ignore | strike | badStart => exact ⟨hst, h.2⟩
  -- the rest, Bob and Single among them: the flag they set in the generator is none of what `GoodGen` reads
  | _ => exact ⟨{ h.1 with }, h.2⟩

theorem botInvariant (N : Nat) : BotInvariant (Inv N) (Fixed N) :=
  .ofFirstRow (firstRow_inv N) (tick_inv N) (msg_inv N)

end Complete
end Wheatley
