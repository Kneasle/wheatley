/-
The timed world in terms of the Bot's transitions: what interpreting an output does (`applyOut`), and each step of
the two threads as "the Bot makes one of its transitions, its outputs are interpreted in order".
-/
import Wheatley.Model.World
import Wheatley.Lemmas.Bot
namespace Wheatley

variable {K : Type} [Num K]

/-! ### Interpreting an output -/

/-- The regression a call on the rhythm is run with: the head of the driver's tape if there is one, else the model's
own. -/
def World.regf (w : World K) : List (K × K × K) → K × K :=
  match w.tape.head? with
  | some h => fun _ => h
  | none => regress

theorem withReg_eq (w : World K) (f : (List (K × K × K) → K × K) → Reg K) :
    w.withReg f =
      { w with rh := { w.rh with reg := f w.regf }, tape := (w.withReg f).tape, maxDev := (w.withReg f).maxDev } := by
  unfold World.withReg
  exact ite_cases (P := fun x : World K =>
    x = { w with rh := { w.rh with reg := f w.regf }, tape := x.tape, maxDev := x.maxDev }) rfl rfl

/-- What a call on the rhythm does to the waiting wrapper (`WaitForUserRhythm`'s own half of the call). -/
def Out.onWait : Out → WaitR K → WaitR K
  | .rReturn, x => { x with shouldReturn := true }
  | .rInit _ _ _, x => x.initialise
  | .rExpect bell _ _ hand, x => x.expect bell hand
  | .rBellRing bell hand, x => x.onBellRing bell hand
  | _, x => x

/-- What a call on the rhythm can do to the regression rhythm: nothing (a stub, an output that is no rhythm call, a
setting that is not understood), or the operation the output names. -/
inductive Reg.Told (wt : K → K) (r : Reg K) : Out → Reg K → Prop
  | skip (o : Out) : Told wt r o r
  | flag : Told wt r .rReturn { r with shouldReturn := true }
  | init (g : List (K × K × K) → K × K) (stage : Nat) (ut : Bool) (n : Nat) (t : K) :
      Told wt r (.rInit stage ut n) (r.initialiseLine g stage ut t)
  | expect (bell row place : Nat) (hand : Bool) : Told wt r (.rExpect bell row place hand) (r.expect bell row place hand)
  | ring (g : List (K × K × K) → K × K) (bell : Nat) (hand : Bool) (t : K) :
      Told wt r (.rBellRing bell hand) (r.onBellRing wt g bell hand t)
  | speed (key : String) (v : SVal) (s t : K) : Told wt r (.rSetting key v) (r.changePealSpeed s t)
  | inertia (key : String) (v : SVal) (x : K) : Told wt r (.rSetting key v) { r with preferredInertia := x }

def Out.toRhythm : Out → Bool
  | .rReturn | .rInit _ _ _ | .rExpect _ _ _ _ | .rBellRing _ _ | .rSetting _ _ => true
  | _ => false

theorem applyOut_log (wt : K → K) (ct : K) (w : World K) (o : Out) (h : o.toRhythm = false) :
    World.applyOut wt ct w o = { w with obs := { t := w.now, out := o } :: w.obs } := by
  -- `applyOut` is stuck on `w.rh.stub` only: with the stub a variable both sides compute
  obtain ⟨_, _, ⟨_, _, stub⟩⟩ := w
  cases o <;> cases h <;> cases stub <;> rfl

theorem foldl_applyOut_log (wt : K → K) (ct : K) :
    ∀ (outs : List Out) (w : World K), (∀ o ∈ outs, o.toRhythm = false) →
      outs.foldl (World.applyOut wt ct) w =
        { w with obs := outs.reverse.map (fun o => ({ t := w.now, out := o } : Obs K)) ++ w.obs } := by
  intro outs
  induction outs with
  | nil => intro w _; rfl
  | cons o rest ih =>
    intro w ho
    rw [List.foldl_cons, applyOut_log wt ct w o (ho o List.mem_cons_self),
      ih _ fun o' h => ho o' (List.mem_cons_of_mem _ h)]
    simp

/-- `w'` is `w` with the output `o` logged and the rhythm object told it (the regression rhythm does what `Reg.Told`
allows, the wrapper is left alone or does `Out.onWait`); beside the log and the rhythm only the clock (the 20 ms inside
`initialise_line`), the activity stamp, the driver's regression tape and the deviation figure can differ. -/
def World.Told (wt : K → K) (w : World K) (o : Out) (w' : World K) : Prop :=
  ∃ reg wait now la tape md,
    w' = { w with obs := { t := w.now, out := o } :: w.obs, rh := { reg := reg, wait := wait, stub := w.rh.stub },
                  now := now, lastActivity := la, tape := tape, maxDev := md } ∧
    Reg.Told wt w.rh.reg o reg ∧ (wait = w.rh.wait ∨ wait = w.rh.wait.map o.onWait) ∧
    la = (match o with | .rInit _ _ _ => w.now | _ => w.lastActivity)

theorem applyOut_eq (wt : K → K) (ct : K) (w : World K) (o : Out) : w.Told wt o (World.applyOut wt ct w o) := by
  by_cases hr : o.toRhythm = false
  · rw [applyOut_log wt ct w o hr]
    exact ⟨_, _, _, _, _, _, rfl, .skip _, Or.inl rfl, by cases o <;> first | rfl | cases hr⟩
  unfold World.applyOut
  dsimp only
  split
  · refine ⟨_, _, w.now, _, w.tape, w.maxDev, ?_, .skip _, Or.inl rfl, rfl⟩
    cases o <;> rfl
  · cases o with
    | rReturn => exact ⟨_, _, _, _, _, _, rfl, .flag, Or.inr rfl, rfl⟩
    | rInit stage ut n =>
      dsimp only
      cases hw : w.rh.wait with
      | none =>
        rw [withReg_eq]
        exact ⟨_, _, _, _, _, _, rfl, .init _ stage ut n _, Or.inl rfl, rfl⟩
      | some wr =>
        dsimp only
        rw [withReg_eq]
        exact ⟨_, _, _, _, _, _, rfl, .init _ stage ut n _, Or.inr (by rw [hw]; rfl), rfl⟩
    | rExpect bell row place hand => exact ⟨_, _, _, _, _, _, rfl, .expect bell row place hand, Or.inr rfl, rfl⟩
    | rBellRing bell hand =>
      dsimp only
      rw [withReg_eq]
      exact ⟨_, _, _, _, _, _, rfl, .ring _ bell hand _, Or.inr rfl, rfl⟩
    | rSetting key v =>
      dsimp only
      -- whatever its tests say, a setting is a telling: of a peal speed, of an inertia, or of nothing
      have skip : w.Told wt (.rSetting key v) { w with obs := { t := w.now, out := .rSetting key v } :: w.obs } :=
        ⟨_, _, _, _, _, _, rfl, .skip _, Or.inl rfl, rfl⟩
      refine ite_cases (P := w.Told wt _) ?_ (ite_cases (P := w.Told wt _) ?_ skip)
      · cases v with
        | int n => exact ite_cases (P := w.Told wt _) ⟨_, _, _, _, _, _, rfl, .speed key _ _ _, Or.inl rfl, rfl⟩ skip
        | _ => exact skip
      · cases v with
        | int n => exact ite_cases (P := w.Told wt _) ⟨_, _, _, _, _, _, rfl, .inertia key _ _, Or.inl rfl, rfl⟩ skip
        | _ => exact skip
    | _ => exact absurd rfl hr

theorem foldl_applyOut_eq (wt : K → K) (ct : K) : ∀ (outs : List Out) (w : World K),
    ∃ l rh now la tape md,
      outs.foldl (World.applyOut wt ct) w =
        { w with obs := l ++ w.obs, rh := rh, now := now, lastActivity := la, tape := tape, maxDev := md } ∧
      l.map (·.out) = outs.reverse := by
  intro outs
  induction outs with
  | nil => intro w; exact ⟨[], w.rh, w.now, w.lastActivity, w.tape, w.maxDev, rfl, rfl⟩
  | cons o rest ih =>
    intro w
    obtain ⟨reg, wait, now, la, tape, md, h, -, -, -⟩ := applyOut_eq wt ct w o
    obtain ⟨l, rh, now', la', tape', md', h', hl⟩ := ih (World.applyOut wt ct w o)
    refine ⟨l ++ [{ t := w.now, out := o }], rh, now', la', tape', md', ?_, ?_⟩
    · rw [List.foldl_cons, h', h]; simp
    · simp [hl]

/-- `P` is kept whenever the rhythm object is told an output in `Q`. -/
def Rh.Keeps (wt : K → K) (Q : Out → Prop) (P : Rh K → Prop) : Prop :=
  ∀ (rh : Rh K) (o : Out) (reg : Reg K) (wait : Option (WaitR K)), Q o → P rh → Reg.Told wt rh.reg o reg →
    (wait = rh.wait ∨ wait = rh.wait.map o.onWait) → P { reg := reg, wait := wait, stub := rh.stub }

theorem foldl_applyOut_rh (wt : K → K) (ct : K) {P : Rh K → Prop} {Q : Out → Prop} (step : Rh.Keeps wt Q P) :
    ∀ (outs : List Out) (w : World K), (∀ o ∈ outs, o.toRhythm = true → Q o) → P w.rh →
      P (outs.foldl (World.applyOut wt ct) w).rh := by
  intro outs
  induction outs with
  | nil => intro w _ hp; exact hp
  | cons o rest ih =>
    intro w hq hp
    refine ih _ (fun o' ho' => hq o' (List.mem_cons_of_mem _ ho')) ?_
    cases hr : o.toRhythm with
    | false => rw [applyOut_log wt ct w o hr]; exact hp  -- no call on the rhythm: the output is only logged
    | true =>
      obtain ⟨reg, wait, now, la, tape, md, h, ht, hw, -⟩ := applyOut_eq wt ct w o
      rw [h]
      exact step w.rh o reg wait (hq o List.mem_cons_self hr) hp ht hw

/-! ### No output touches the hold-up -/

theorem setExpected_delay {α : Type} (x : WaitR α) (hand : Bool) (l : List Nat) :
    (x.setExpected hand l).delay = x.delay := by
  cases hand <;> rfl

theorem setEarly_delay {α : Type} (x : WaitR α) (hand : Bool) (l : List Nat) : (x.setEarly hand l).delay = x.delay := by
  cases hand <;> rfl

theorem waitR_expect_delay (x : WaitR K) (bell : Nat) (hand : Bool) : (x.expect bell hand).delay = x.delay := by
  simp only [WaitR.expect, apply_ite WaitR.delay, setExpected_delay, setEarly_delay, ite_self]

theorem onBellRing_delay (x : WaitR K) (bell : Nat) (hand : Bool) : (x.onBellRing bell hand).delay = x.delay := by
  simp only [WaitR.onBellRing, apply_ite WaitR.delay, setExpected_delay, setEarly_delay, ite_self]

theorem onWait_delay (o : Out) (x : WaitR K) : (o.onWait x).delay = x.delay := by
  cases o with
  | rExpect bell _ _ hand => exact waitR_expect_delay x bell hand
  | rBellRing bell hand => exact onBellRing_delay x bell hand
  | _ => rfl

/-- The hold-up as the rhythm object has it (`World.delay` is this of the world's rhythm). -/
def Rh.delay (rh : Rh K) : K := match rh.wait with | some wr => wr.delay | none => W0

theorem told_delay (wt : K → K) (D : K) : Rh.Keeps wt (fun _ => True) (fun rh => Rh.delay rh = D) := by
  rintro rh o reg wait - rfl - (rfl | rfl)
  · rfl
  · unfold Rh.delay; cases rh.wait <;> simp [onWait_delay]

theorem foldl_applyOut_delay (wt : K → K) (ct : K) (outs : List Out) (w : World K) :
    (outs.foldl (World.applyOut wt ct) w).delay = w.delay :=
  foldl_applyOut_rh wt ct (told_delay wt w.delay) outs w (fun _ _ _ => trivial) rfl

/-! ### Exceptions among the outputs -/

theorem mem_of_findSome_isCrash {outs : List Out} {e : String} (h : outs.findSome? isCrash = some e) :
    Out.crash e ∈ outs := by
  obtain ⟨o, ho, he⟩ := List.exists_of_findSome?_eq_some h
  cases o <;> simp [isCrash] at he
  exact he ▸ ho

theorem not_crash_of_findSome_none {outs : List Out} (h : outs.findSome? isCrash = none) (e : String) :
    Out.crash e ∉ outs :=
  fun he => by simpa [isCrash] using List.findSome?_eq_none_iff.mp h _ he

/-! ### The socket thread -/

/-- The socket thread has run a transition `p` of the Bot: the new Bot, its outputs interpreted at the current time,
an exception that escaped noted. -/
def World.handled (wt : K → K) (w : World K) (p : Bot × List Out) : World K :=
  let w2 := p.2.foldl (World.applyOut wt w.now) { w with bot := p.1 }
  match p.2.findSome? isCrash with
  | some e => { w2 with handlerCrashes := w2.handlerCrashes ++ [e] }
  | none => w2

theorem handled_rh (wt : K → K) (w : World K) (p : Bot × List Out) :
    (w.handled wt p).rh = (p.2.foldl (World.applyOut wt w.now) { w with bot := p.1 }).rh := by
  unfold World.handled
  cases p.2.findSome? isCrash <;> rfl

theorem handled_keeps (wt : K → K) (w : World K) (p : Bot × List Out) {P : Rh K → Prop} {Q : Out → Prop}
    (step : Rh.Keeps wt Q P)
    (hq : ∀ o ∈ p.2, o.toRhythm = true → Q o) (hp : P w.rh) : P (w.handled wt p).rh := by
  rw [handled_rh]
  exact foldl_applyOut_rh wt w.now step p.2 _ hq hp

theorem handled_eq (wt : K → K) (w : World K) (p : Bot × List Out) :
    ∃ l rh now la tape md,
      w.handled wt p = { w with bot := p.1, obs := l ++ w.obs, rh := rh, now := now, lastActivity := la, tape := tape,
                                maxDev := md,
                                handlerCrashes := w.handlerCrashes ++ (p.2.findSome? isCrash).toList } ∧
      l.map (·.out) = p.2.reverse := by
  obtain ⟨l, rh, now, la, tape, md, h, hl⟩ := foldl_applyOut_eq wt w.now p.2 ({ w with bot := p.1 } : World K)
  refine ⟨l, rh, now, la, tape, md, ?_, hl⟩
  unfold World.handled
  simp only [h]
  cases p.2.findSome? isCrash
  · rw [show (none : Option String).toList = [] from rfl, List.append_nil]
  · rfl

theorem lookToSuspends_some {w : World K} {m : Msg} {s : Susp K} {wr : WaitR K}
    (h : w.lookToSuspends m = some (s, wr)) :
    m = .call Generated.call_LOOK_TO ∧ w.rh.wait = some wr ∧ s.callTime = w.now ∧
    (w.bot.checkStartingRow && w.bot.checkNumberOfBells (w.bot.nextGen.getD w.bot.gen)) = true := by
  revert h
  -- of the six ways through `lookToSuspends` only the first answers `some`
  fun_cases World.lookToSuspends w m <;> intro h <;> cases h
  next c hc _ _ hg _ _ _ hwait => exact ⟨by rw [eq_of_beq hc], hwait, rfl, hg⟩

theorem lookToInner_eq (wt : K → K) (w : World K) (s : Susp K) :
    ∃ reg tape md, w.lookToInner s = { w with rh := { w.rh with reg := reg }, tape := tape, maxDev := md } ∧
      Reg.Told wt w.rh.reg (.rInit s.stage s.userTreble s.nUser) reg := by
  unfold World.lookToInner
  cases hw : w.rh.wait with
  | none => exact ⟨w.rh.reg, w.tape, w.maxDev, rfl, .skip _⟩
  | some wr => exact ⟨_, _, _, withReg_eq w _, .init _ _ _ _ _⟩

theorem lookToRest_eq (wt : K → K) (w : World K) :
    w.lookToRest wt = w.handled wt (w.bot.firstRow, w.bot.firstRow.expectAll) := by
  unfold World.lookToRest
  rw [arm_start]
  rfl

theorem deliver_cases (wt : K → K) (w : World K) (e : Ev) :
    (e = .resume ∧ w.suspended = none ∧ World.deliver wt w e = w) ∨
    (∃ s, e = .resume ∧ w.suspended = some s ∧
      World.deliver wt w e = (({ w with suspended := none } : World K).lookToInner s).lookToRest wt) ∨
    (∃ m s wr, e = .msg m ∧ w.lookToSuspends m = some (s, wr) ∧ World.deliver wt w e = w.lookToBegin s wr) ∨
    (∃ m, e = .msg m ∧ w.lookToSuspends m = none ∧ World.deliver wt w e = w.handled wt (w.bot.onMsg m)) := by
  unfold World.deliver
  cases e with
  | resume =>
    rcases hs : w.suspended with _ | s
    · exact Or.inl ⟨rfl, rfl, rfl⟩
    · exact Or.inr (Or.inl ⟨s, rfl, rfl, rfl⟩)
  | msg m =>
    rcases hl : w.lookToSuspends m with _ | ⟨s, wr⟩
    · exact Or.inr (Or.inr (Or.inr ⟨m, rfl, hl, by simp only [hl]; rfl⟩))
    · exact Or.inr (Or.inr (Or.inl ⟨m, s, wr, rfl, hl, by simp only [hl]⟩))

theorem deliver_msg (wt : K → K) (w : World K) (m : Msg) (hm : m ≠ .call Generated.call_LOOK_TO) :
    World.deliver wt w (.msg m) = w.handled wt (w.bot.onMsg m) := by
  rcases deliver_cases wt w (.msg m) with ⟨h, -⟩ | ⟨_, h, -⟩ | ⟨m', s, wr, h, hl, -⟩ | ⟨m', h, -, h'⟩
  · cases h
  · cases h
  · cases h; exact absurd (lookToSuspends_some hl).1 hm
  · cases h; exact h'

/-- **What a handler tells the rhythm**, Look To apart: a strike heard, settings, or (Stop Touch) to return; its other
outputs (`ValueError`, the calls of a late Go, the word that ringing has stopped) are no calls on the rhythm. -/
theorem deliver_msg_told (wt : K → K) (w : World K) (m : Msg) {P : Rh K → Prop}
    (hm : m ≠ .call Generated.call_LOOK_TO)
    (step : Rh.Keeps wt (fun o => (∃ st who hand, m = .bellRung st who ∧ o = .rBellRing who hand) ∨
      (∃ kvs k v, m = .setting kvs ∧ o = .rSetting k v) ∨ (m = .stopTouch ∧ o = .rReturn)) P)
    (hp : P w.rh) : P (World.deliver wt w (.msg m)).rh := by
  rw [deliver_msg wt w m hm]
  refine handled_keeps wt w _ step (fun o ho hr => ?_) hp
  rcases onMsg_outs w.bot m o ho with h | ⟨rfl, _⟩ | ⟨rfl, _⟩ | ⟨_, _, rfl, _⟩ | h | ⟨h, rfl | rfl⟩
  · exact .inl h
  · cases hr
  · exact absurd rfl hm
  · cases hr
  · exact .inr (.inl h)
  · cases hr
  · exact .inr (.inr ⟨h, rfl⟩)

theorem deliver_rh (wt : K → K) (w : World K) (e : Ev) {P : Rh K → Prop} (told : Rh.Keeps wt (fun _ => True) P)
    (hp : P w.rh) : P (World.deliver wt w e).rh := by
  have handled : ∀ (w0 : World K) p, P w0.rh → P (w0.handled wt p).rh := fun w0 p h0 =>
    handled_keeps wt w0 p told (fun _ _ _ => trivial) h0
  rcases deliver_cases wt w e with ⟨-, -, h⟩ | ⟨s, -, -, h⟩ | ⟨m, s, wr, -, hl, h⟩ | ⟨m, -, -, h⟩ <;> rw [h]
  · exact hp
  · obtain ⟨reg, tape, md, hi, ht⟩ := lookToInner_eq wt ({ w with suspended := none } : World K) s
    rw [lookToRest_eq]
    refine handled _ _ ?_
    rw [hi]
    exact told w.rh _ reg w.rh.wait trivial hp ht (.inl rfl)
  · -- `lookToBegin` sets the two return flags and initialises the wrapper: the tellings of `.rReturn` and, the
    -- wrapper's half only, of `.rInit` (`initialise` keeps the flag just set, so the order does not matter)
    have h1 := told w.rh .rReturn _ _ trivial hp .flag (.inr rfl)
    rw [(lookToSuspends_some hl).2.1] at h1
    exact told { reg := { w.rh.reg with shouldReturn := true }, wait := some { wr with shouldReturn := true },
                 stub := w.rh.stub } (.rInit s.stage s.userTreble s.nUser) _ _ trivial h1 (.skip _) (.inr rfl)
  · exact handled w _ hp

theorem deliver_awake (wt : K → K) (w : World K) (e : Ev) (hs : w.suspended = none) :
    (e = .msg (.call Generated.call_LOOK_TO) ∧
      (w.bot.checkStartingRow && w.bot.checkNumberOfBells (w.bot.nextGen.getD w.bot.gen)) = true) ∨
    ((World.deliver wt w e).suspended = none ∧ (World.deliver wt w e).pc = w.pc ∧
      ((World.deliver wt w e).bot = w.bot ∨ ∃ m, e = .msg m ∧ (World.deliver wt w e).bot = (w.bot.onMsg m).1)) := by
  rcases deliver_cases wt w e with ⟨-, -, h⟩ | ⟨s, -, hs', -⟩ | ⟨m, s, wr, rfl, hl, -⟩ | ⟨m, rfl, -, h⟩
  · rw [h]; exact Or.inr ⟨hs, rfl, Or.inl rfl⟩
  · rw [hs] at hs'; cases hs'
  · exact Or.inl ⟨congrArg Ev.msg (lookToSuspends_some hl).1, (lookToSuspends_some hl).2.2.2⟩
  · obtain ⟨l, rh, now, la, tape, md, h', -⟩ := handled_eq wt w (w.bot.onMsg m)
    rw [h, h']
    exact Or.inr ⟨hs, rfl, Or.inr ⟨m, rfl, rfl⟩⟩

/-! ### The main thread -/

/-- The main thread has run a transition `p` of the Bot: the new Bot, its outputs interpreted at time `ct`; an
exception among them ends the main loop, otherwise the thread goes on at `next`. -/
def World.ran (wt : K → K) (ct : K) (w : World K) (p : Bot × List Out) (next : PC K) : World K :=
  let w1 := p.2.foldl (World.applyOut wt ct) { w with bot := p.1 }
  match p.2.findSome? isCrash with
  | some e => { w1 with crashed := some e, pc := .done }
  | none => { w1 with pc := next }

theorem ran_rh (wt : K → K) (ct : K) (w : World K) (p : Bot × List Out) (next : PC K) :
    (w.ran wt ct p next).rh = (p.2.foldl (World.applyOut wt ct) { w with bot := p.1 }).rh := by
  unfold World.ran
  cases p.2.findSome? isCrash <;> rfl

theorem ran_delay (wt : K → K) (ct : K) (w : World K) (p : Bot × List Out) (next : PC K) :
    (w.ran wt ct p next).delay = w.delay := by
  show Rh.delay (w.ran wt ct p next).rh = _
  rw [ran_rh]
  exact foldl_applyOut_delay wt ct p.2 _

theorem ran_eq (wt : K → K) (ct : K) (w : World K) (p : Bot × List Out) (next : PC K) :
    ∃ l rh now la tape md cr pc,
      w.ran wt ct p next = { w with bot := p.1, obs := l ++ w.obs, rh := rh, now := now, lastActivity := la,
                                    tape := tape, maxDev := md, crashed := cr, pc := pc } ∧
      l.map (·.out) = p.2.reverse ∧
      ((p.2.findSome? isCrash = none ∧ cr = w.crashed ∧ pc = next) ∨
       (∃ e, p.2.findSome? isCrash = some e ∧ cr = some e ∧ pc = .done)) := by
  obtain ⟨l, rh, now, la, tape, md, h, hl⟩ := foldl_applyOut_eq wt ct p.2 ({ w with bot := p.1 } : World K)
  unfold World.ran
  simp only [h]
  cases hc : p.2.findSome? isCrash with
  | none => exact ⟨l, rh, now, la, tape, md, _, _, rfl, hl, Or.inl ⟨rfl, rfl, rfl⟩⟩
  | some e => exact ⟨l, rh, now, la, tape, md, _, _, rfl, hl, Or.inr ⟨e, rfl, rfl, rfl⟩⟩

theorem finishTick_fst (wt : K → K) (w : World K) (bell : Nat) (uc : Bool) :
    (w.finishTick wt bell uc).1 = w.ran wt w.now (w.bot.tickEnd bell uc) .tickSlept := by
  unfold World.finishTick World.ran
  simp only []
  cases (w.bot.tickEnd bell uc).2.findSome? isCrash <;> rfl

theorem afterInner_keep_going (wt : K → K) (w : World K) (bell : Nat) (uc hand : Bool) (d : K) (js : Bool)
    (h : w.rh.wait = none) : w.afterInner wt bell uc hand d js = w.finishTick wt bell uc := by
  simp [World.afterInner, h]

theorem afterInner_own_bell (wt : K → K) (w : World K) {wr : WaitR K} (bell : Nat) (hand : Bool) (d : K) (js : Bool)
    (hw : w.rh.wait = some wr) :
    w.afterInner wt bell false hand d js =
      ({ w with rh := { w.rh with wait := some { wr with shouldReturn := false } } } : World K).finishTick wt bell false := by
  unfold World.afterInner
  simp only [hw, Bool.false_eq_true, if_false]

theorem afterInner_polls (wt : K → K) (w : World K) {wr : WaitR K} (bell : Nat) (hand : Bool) (d : K) (js : Bool)
    (hw : w.rh.wait = some wr) (hl : ((js && wr.shouldReturn) || !((wr.expected hand).contains bell)) = false) :
    w.afterInner wt bell true hand d js =
      ({ w with pc := .userPoll bell true hand d }, .sleep (Num.ofQ Generated.waitSleepTime)) := by
  unfold World.afterInner
  simp only [hw, if_true, hl, Bool.false_eq_true, if_false]

theorem afterInner_leaves (wt : K → K) (w : World K) {wr : WaitR K} (bell : Nat) (hand : Bool) (d : K) (js : Bool)
    (hw : w.rh.wait = some wr) (hl : ((js && wr.shouldReturn) || !((wr.expected hand).contains bell)) = true) :
    w.afterInner wt bell true hand d js =
      ({ w with rh := { w.rh with wait := some { wr with
          delay := if Num.eqb d W0 then wr.delay else wr.delay + d, shouldReturn := false } } } :
        World K).finishTick wt bell true := by
  unfold World.afterInner
  simp only [hw, if_true, hl]
  cases Num.eqb d W0 <;> rfl

theorem afterInner_cases (wt : K → K) (w : World K) (bell : Nat) (uc hand : Bool) (d : K) (js : Bool) :
    (∃ wr, w.rh.wait = some wr ∧ uc = true ∧ bell ∈ wr.expected hand ∧
      w.afterInner wt bell uc hand d js =
        ({ w with pc := .userPoll bell uc hand d }, .sleep (Num.ofQ Generated.waitSleepTime))) ∨
    (∃ wait, (wait = w.rh.wait ∨ ∃ wr x, w.rh.wait = some wr ∧ (x = wr.delay ∨ (uc = true ∧ x = wr.delay + d)) ∧
        wait = some { wr with delay := x, shouldReturn := false }) ∧
      w.afterInner wt bell uc hand d js = ({ w with rh := { w.rh with wait := wait } } : World K).finishTick wt bell uc) := by
  cases hw : w.rh.wait with
  | none => exact .inr ⟨none, .inl rfl, by rw [afterInner_keep_going wt w bell uc hand d js hw, ← hw]⟩
  | some wr =>
    cases uc with
    | false => exact .inr ⟨_, .inr ⟨wr, wr.delay, rfl, .inl rfl, rfl⟩, afterInner_own_bell wt w bell hand d js hw⟩
    | true =>
      cases hl : ((js && wr.shouldReturn) || !((wr.expected hand).contains bell)) with
      | false =>
        have hl' := hl
        simp only [Bool.or_eq_false_iff, Bool.not_eq_false', List.contains_iff_mem] at hl'
        exact .inl ⟨wr, rfl, rfl, hl'.2, afterInner_polls wt w bell hand d js hw hl⟩
      | true =>
        exact .inr ⟨_, .inr ⟨wr, _, rfl, ite_cases (P := fun x => x = wr.delay ∨ (true = true ∧ x = wr.delay + d))
          (.inl rfl) (.inr ⟨rfl, rfl⟩), rfl⟩, afterInner_leaves wt w bell hand d js hw hl⟩

theorem beginWait_eq (w : World K) (bell : Nat) (uc hand : Bool) :
    ∃ wait, (w.beginWait bell uc hand).1 = { w with rh := { w.rh with wait := wait } } ∧
      ({ w with rh := { w.rh with wait := wait } } : World K).delay = w.delay ∧
      (w.beginWait bell uc hand).2 =
        match w.rh.stub with
        | some d => (d, .innerSlept bell uc hand)
        | none =>
          match w.rh.reg.waitPlan (w.now - w.delay) w.bot.rowNumber w.bot.place uc with
          | .pullOff => (Num.ofQ Generated.waitSleepTime, .pullOff bell uc hand)
          | .sleep d => (d, .innerSlept bell uc hand) := by
  unfold World.beginWait
  cases hs : w.rh.stub with
  | some d => exact ⟨w.rh.wait, rfl, rfl, rfl⟩
  | none =>
    -- whatever the regression rhythm plans, the world is the one in which the stroke was noted
    cases hw : w.rh.wait with
    | none =>
      refine ⟨none, ?_⟩
      simp only [World.delay, hw]
      generalize w.rh.reg.waitPlan (w.now - W0) w.bot.rowNumber w.bot.place uc = plan
      cases plan <;> exact ⟨by rw [← hw], trivial, rfl⟩
    | some wr =>
      refine ⟨some { wr with currentHand := hand }, ?_⟩
      simp only [World.delay, hw]
      generalize w.rh.reg.waitPlan (w.now - wr.delay) w.bot.rowNumber w.bot.place uc = plan
      cases plan <;> exact ⟨rfl, trivial, rfl⟩

theorem mainStep_ringCheck (wt : K → K) (w : World K) (bell : Nat) (uc : Bool) (hpc : w.pc = .ringCheck)
    (hr : w.bot.isRinging = true) (hb : w.bot.tickBegin = some (bell, uc)) :
    w.mainStep wt = ({ (w.beginWait bell uc w.bot.hand).1 with pc := (w.beginWait bell uc w.bot.hand).2.2 },
      .sleep (w.beginWait bell uc w.bot.hand).2.1) := by
  unfold World.mainStep
  simp only [hpc, hr, if_true, hb]

theorem mainStep_fst (wt : K → K) (w : World K) :
    (w.mainStep wt).1 =
      match w.pc with
      | .done => w
      | .waitLoaded it lt =>
        if it < 20 then
          if !w.bot.tower.bellState.isEmpty then
            match lt with
            | some t => w.ran wt t w.bot.lookTo .outerTop
            | none => { w with pc := .outerTop }
          else { w with pc := .waitLoaded (it + 1) lt }
        else { w with crashed := some "SocketIOClientError", pc := .done }
      | .outerTop => { w with lastActivity := w.now, pc := .idleCheck }
      | .idleCheck =>
        if !w.bot.isRinging then { w with pc := .idleSlept }
        else (match w.bot.serverId with
              | some id => [Out.setIsRinging true, .rollCall id]
              | none => []).foldl (World.applyOut wt w.now) { w with pc := .ringCheck }
      | .idleSlept =>
        if w.bot.serverMode && !w.bot.isRinging && (w.lastActivity + Num.ofQ Generated.inactivityExitTime < w.now) then
          { w with exited := true, pc := .done }
        else { w with pc := .idleCheck }
      | .ringCheck =>
        if w.bot.isRinging then
          match w.bot.tickBegin with
          | none => { w with crashed := some "IndexError", pc := .done }
          | some (bell, uc) => { (w.beginWait bell uc w.bot.hand).1 with pc := (w.beginWait bell uc w.bot.hand).2.2 }
        else (if w.bot.serverMode then [Out.setIsRinging false] else []).foldl (World.applyOut wt w.now)
               { w with pc := .outerTop }
      | .pullOff bell uc hand =>
        match w.rh.reg.start with
        | .inf => w
        | .fin _ => (w.afterInner wt bell uc hand W0 false).1
      | .innerSlept bell uc hand =>
        ((match w.rh.stub with
          | some _ => w
          | none => { w with rh := { w.rh with reg := { w.rh.reg with shouldReturn := false } } }).afterInner
            wt bell uc hand W0 false).1
      | .userPoll bell uc hand d => (w.afterInner wt bell uc hand (d + Num.ofQ Generated.waitSleepTime) true).1
      | .tickSlept => { w with pc := .ringCheck } := by
  unfold World.mainStep World.ran
  -- `.1` goes through the tests (`apply_ite`); what is left is a case split on what a `match` looks at.  `simp only`
  -- and not `dsimp only`: it reduces the `match` on the program counter before it walks the ten arms
  cases w.pc with
  | waitLoaded it lt =>
    cases lt with
    | none => simp only [apply_ite Prod.fst]
    | some t => simp only [apply_ite Prod.fst]; cases w.bot.lookTo.2.findSome? isCrash <;> rfl
  | idleCheck | idleSlept => exact apply_ite Prod.fst ..
  | ringCheck => simp only [apply_ite Prod.fst]; cases w.bot.tickBegin <;> rfl
  | pullOff bell uc hand => simp only []; cases w.rh.reg.start <;> rfl
  | _ => rfl

/-! ### A turn of one of Wheatley's own bells -/

/-- What the outputs of a turn leave alone. -/
structure Frame (w w' : World K) : Prop where
  start : w'.rh.reg.start = w.rh.reg.start
  interval : w'.rh.reg.interval = w.rh.reg.interval
  stage : w'.rh.reg.stage = w.rh.reg.stage
  gap : w'.rh.reg.gap = w.rh.reg.gap
  delay : w'.delay = w.delay
  now : w'.now = w.now
  stub : w'.rh.stub = w.rh.stub
  bot : w'.bot = w.bot
  waitSome : w'.rh.wait.isSome = w.rh.wait.isSome
  crashed : w'.crashed = w.crashed
  exited : w'.exited = w.exited
  tape : w'.tape = w.tape
  lastActivity : w'.lastActivity = w.lastActivity

theorem Frame.refl (w : World K) : Frame w w :=
  ⟨rfl, rfl, rfl, rfl, rfl, rfl, rfl, rfl, rfl, rfl, rfl, rfl, rfl⟩

theorem Frame.trans {a b c : World K} (h1 : Frame a b) (h2 : Frame b c) : Frame a c :=
  ⟨h2.start.trans h1.start, h2.interval.trans h1.interval, h2.stage.trans h1.stage, h2.gap.trans h1.gap,
   h2.delay.trans h1.delay, h2.now.trans h1.now, h2.stub.trans h1.stub, h2.bot.trans h1.bot,
   h2.waitSome.trans h1.waitSome, h2.crashed.trans h1.crashed, h2.exited.trans h1.exited,
   h2.tape.trans h1.tape, h2.lastActivity.trans h1.lastActivity⟩

/-- The outputs a turn can produce. -/
def Out.turnKind : Out → Bool
  | .ring _ _ | .call _ | .crash _ | .rExpect _ _ _ _ => true
  | _ => false

theorem applyOut_turnKind (wt : K → K) (ct : K) (w : World K) (o : Out) (h : o.turnKind = true) :
    Frame w (World.applyOut wt ct w o) ∧
    (World.applyOut wt ct w o).obs = { t := w.now, out := o } :: w.obs := by
  cases o <;> cases h
  case rExpect bell row place hand =>
    -- a stub only logs the expectation; otherwise the regression rhythm and the wrapper note it (`expect`)
    unfold World.applyOut
    dsimp only
    cases hs : w.rh.stub with
    | some _ => exact ⟨⟨rfl, rfl, rfl, rfl, rfl, rfl, rfl, rfl, rfl, rfl, rfl, rfl, rfl⟩, rfl⟩
    | none =>
      refine ⟨⟨rfl, rfl, rfl, rfl, ?_, rfl, hs.symm, rfl, ?_, rfl, rfl, rfl, rfl⟩, rfl⟩
      · unfold World.delay
        cases w.rh.wait <;> simp [waitR_expect_delay]
      · simp
  all_goals rw [applyOut_log _ _ _ _ rfl]; exact ⟨⟨rfl, rfl, rfl, rfl, rfl, rfl, rfl, rfl, rfl, rfl, rfl, rfl, rfl⟩, rfl⟩

theorem foldl_applyOut_turnKind (wt : K → K) (ct : K) (outs : List Out) :
    ∀ (w : World K), (∀ o ∈ outs, o.turnKind = true) →
      Frame w (outs.foldl (World.applyOut wt ct) w) ∧
      (outs.foldl (World.applyOut wt ct) w).obs =
        (outs.reverse.map (fun o => ({ t := w.now, out := o } : Obs K))) ++ w.obs := by
  induction outs with
  | nil => intro w _; exact ⟨Frame.refl w, rfl⟩
  | cons o rest ih =>
    intro w h
    obtain ⟨f1, o1⟩ := applyOut_turnKind wt ct w o (h o (by simp))
    obtain ⟨f2, o2⟩ := ih (World.applyOut wt ct w o) (fun o' ho' => h o' (by simp [ho']))
    simp only [List.foldl_cons]
    refine ⟨f1.trans f2, ?_⟩
    rw [o2, o1, f1.now]
    simp

theorem tickEnd_turnKind (b : Bot) (bell : Nat) (uc : Bool) : ∀ o ∈ (b.tickEnd bell uc).2, o.turnKind = true := by
  intro o ho
  rcases tickEnd_outs b bell uc o ho with ⟨_, rfl⟩ | ⟨_, rfl, _⟩ | ⟨_, rfl⟩ | ⟨_, _, _, rfl⟩ <;> rfl

theorem mainStep_innerSlept (wt : K → K) (w : World K) (bell : Nat) (uc hand : Bool)
    (hpc : w.pc = .innerSlept bell uc hand) :
    ∃ x : World K, w.mainStep wt = x.afterInner wt bell uc hand W0 false ∧ Frame w x ∧ x.obs = w.obs ∧
      x.rh.wait = w.rh.wait := by
  unfold World.mainStep
  simp only [hpc]
  split
  · exact ⟨w, rfl, Frame.refl w, rfl, rfl⟩
  · exact ⟨_, rfl, ⟨rfl, rfl, rfl, rfl, rfl, rfl, rfl, rfl, rfl, rfl, rfl, rfl, rfl⟩, rfl, rfl⟩

theorem afterInner_own (wt : K → K) (w : World K) (bell : Nat) (hand : Bool) (d : K) (js : Bool) :
    ∃ x : World K, w.afterInner wt bell false hand d js = x.finishTick wt bell false ∧ Frame w x ∧
      x.obs = w.obs := by
  cases hw : w.rh.wait with
  | none => exact ⟨w, afterInner_keep_going wt w bell false hand d js hw, Frame.refl w, rfl⟩
  | some wr =>
    -- the wrapper lowers its flag: the hold-up is the one it had
    exact ⟨_, afterInner_own_bell wt w bell hand d js hw,
      ⟨rfl, rfl, rfl, rfl, by unfold World.delay; rw [hw], rfl, rfl, rfl, by rw [hw]; rfl, rfl, rfl, rfl, rfl⟩, rfl⟩

theorem finishTick_alive (wt : K → K) (w : World K) (bell : Nat) (uc : Bool)
    (hnc : (w.bot.tickEnd bell uc).2.findSome? isCrash = none) :
    ∃ z : World K, w.finishTick wt bell uc = ({ z with pc := .tickSlept }, .sleep (Num.ofQ Generated.tickSleep)) ∧
      Frame { w with bot := (w.bot.tickEnd bell uc).1 } z ∧
      z.obs = (w.bot.tickEnd bell uc).2.reverse.map (fun o => ({ t := w.now, out := o } : Obs K)) ++ w.obs := by
  obtain ⟨fr, fobs⟩ := foldl_applyOut_turnKind wt w.now (w.bot.tickEnd bell uc).2
    ({ w with bot := (w.bot.tickEnd bell uc).1 } : World K) (tickEnd_turnKind _ _ _)
  unfold World.finishTick
  simp only [hnc]
  exact ⟨_, rfl, fr, fobs⟩

end Wheatley
