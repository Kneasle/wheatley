/-
While the method is being rung, the row generator is in a state that a *freshly constructed* generator reaches by
row requests, Bobs and Singles alone: whatever state it was in before the method started - a pending call, a
half-generated multi-change call, a position deep in the course, anything at all - is gone.  An invariant of the Bot
through every handler, every Look To and every `start_next_row` (for C05's system-level theorem).
-/
import Wheatley.Lemmas.MethodRows
namespace Wheatley
namespace FreshTouch
open MethodRows

/-- States a freshly constructed generator reaches through `next_row_and_calls`, `set_bob` and `set_single`
(no `reset` needed, nothing inherited). -/
inductive Reach : Gen → Prop
  | init (k : GenKind) (cs : Option Row) (sr : Row) : Reach (Gen.init k cs sr)
  | next {g g' : Gen} {hand : Bool} {r : Row} {calls : List String} : Reach g → g.next hand = .ok g' r calls → Reach g'
  | bob {g : Gen} : Reach g → Reach g.setBob
  | single {g : Gen} : Reach g → Reach g.setSingle

theorem Reach.reset (g : Gen) : Reach g.reset := by
  rw [Gen.reset_eq_init]; exact Reach.init _ _ _

/-- The operations applied one after the other to a generator (not `C04.applyAll`, which applies changes to a row).
An exception leaves the generator as it was and the rest is applied all the same, where `Gen.runOps` stops. -/
def applyAll (g : Gen) (ops : List GenOp) : Gen := ops.foldl (fun g op => (g.apply op).1) g

theorem Reach.ops {g : Gen} (h : Reach g) :
    ∃ k cs sr ops, (∀ op ∈ ops, op ≠ GenOp.reset) ∧ g = applyAll (Gen.init k cs sr) ops := by
  -- one more operation at the end of the list
  have step : ∀ {g : Gen} (op : GenOp), op ≠ .reset →
      (∃ k cs sr ops, (∀ op ∈ ops, op ≠ GenOp.reset) ∧ g = applyAll (Gen.init k cs sr) ops) →
      ∃ k cs sr ops, (∀ op ∈ ops, op ≠ GenOp.reset) ∧ (g.apply op).1 = applyAll (Gen.init k cs sr) ops := by
    rintro g op hop ⟨k, cs, sr, ops, h1, rfl⟩
    exact ⟨k, cs, sr, ops ++ [op], List.forall_mem_append.mpr ⟨h1, List.forall_mem_singleton.mpr hop⟩,
      by unfold applyAll; rw [List.foldl_append]; rfl⟩
  induction h with
  | init k cs sr => exact ⟨k, cs, sr, [], fun _ h => (nomatch h), rfl⟩
  | @next g g' hand r calls _ hn ih =>
    have := step (.next hand) (fun e => nomatch e) ih
    rwa [show (g.apply (.next hand)).1 = g' by simp only [Gen.apply, hn]] at this
  | bob _ ih => exact step .bob (fun e => nomatch e) ih
  | single _ ih => exact step .single (fun e => nomatch e) ih

def Fresh (b : Bot) : Prop := InMethod b → Reach b.gen

theorem ctl_method_kept (c0 : Ctl) (i : CtlIn) (c : Ctl) (h : ctlStep c0 i = .ok c false)
    (hm : c.isRinging = true ∧ c.ringingOpening = false ∧ c.ringingRounds = false) :
    c0.isRinging = true ∧ c0.ringingOpening = false ∧ c0.ringingRounds = false := by
  obtain ⟨rfl, h2⟩ := ctlStep_ok h
  exact ctlNext_inMethod h2.symm hm

theorem tick_fresh (b : Bot) (bell : Nat) (uc : Bool) (h : Fresh b) : Fresh (b.tickEnd bell uc).1 := by
  intro hm
  rcases tickEnd_inMethod hm with ⟨hb, e, -⟩ | ⟨e, -, -⟩ | ⟨g, hand, g', r, calls, hg, hn, e, -⟩ <;> rw [e]
  · exact h hb
  · exact Reach.reset _
  · refine Reach.next ?_ hn
    rcases hg with ⟨hb, rfl⟩ | rfl
    · exact h hb
    · exact Reach.reset _

theorem msg_fresh (b : Bot) (m : Msg) (h : Fresh b) : Fresh (b.onMsg m).1 := by
  have hr := onMsg_handles b m
  generalize b.onMsg m = p at hr
  induction hr with
  | lookTo => exact fun hm => absurd hm (not_inMethod_firstRow b)
  | bob => exact fun hm => Reach.bob (h hm)
  | single => exact fun hm => Reach.single (h hm)
  | rounds => exact fun hm => nomatch hm.2.1
  | stop => exact fun hm => nomatch hm.1
  | _ => exact h

theorem botInvariant : BotInvariant Fresh (fun _ => True) :=
  .ofFirstRow (fun b _ hm => absurd hm (not_inMethod_firstRow b)) tick_fresh (fun b m _ h => msg_fresh b m h)

end FreshTouch
end Wheatley
