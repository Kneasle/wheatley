/-
Only the main thread strikes: whatever event is delivered, in whatever state, the handler that runs on the socket
thread emits no `c_bell_rung` and leaves the main thread's program counter where it was.
-/
import Wheatley.Lemmas.Lift
namespace Wheatley

variable {K : Type} [Num K]

def ringsOf (obs : List (Obs K)) : List (Obs K) := obs.filter (fun o => o.out.isRing)

theorem socketDoes_no_ring {b : Bot} {e : Ev} {p : Bot × List Out} (h : b.SocketDoes e p) :
    ∀ o ∈ p.2, o.isRing = false := by
  intro o ho
  rcases socketDoes_outs h o ho with hr | rfl | ⟨_, rfl, -⟩ | rfl
  · cases o <;> first | rfl | cases hr
  · rfl
  · rfl
  · rfl

theorem deliver_never_rings (wt : K → K) (w : World K) (e : Ev) :
    (World.deliver wt w e).pc = w.pc ∧ ringsOf (World.deliver wt w e).obs = ringsOf w.obs :=
  let ⟨_, hp, hd, hpc, _⟩ := deliver_does wt w e
  ⟨hpc, hd.filter_obs Out.isRing (socketDoes_no_ring hp)⟩

theorem World.run_silent {wt : K → K} {I : World K → Prop} {E : Ev → Prop}
    (clock : ∀ w t, I w → I { w with now := t })
    (main : ∀ w, I w → I (w.mainStep wt).1 ∧ ringsOf (w.mainStep wt).1.obs = ringsOf w.obs)
    (deliver : ∀ w e, E e → I w → I (World.deliver wt w e))
    (endTime : K) (fuel : Nat) (w : World K) (events : List (K × Ev)) (hs : ∀ ev ∈ events, E ev.2) (hw : I w) :
    ringsOf (World.run wt endTime fuel w events).1.obs = ringsOf w.obs :=
  (WorldInvariant.run (I := fun w' => I w' ∧ ringsOf w'.obs = ringsOf w.obs)
    ⟨fun w' t h => ⟨clock w' t h.1, h.2⟩, fun w' h => ⟨(main w' h.1).1, (main w' h.1).2.trans h.2⟩,
      fun w' e he h => ⟨deliver w' e he h.1, (deliver_never_rings wt w' e).2.trans h.2⟩⟩
    endTime fuel w events hs ⟨hw, rfl⟩).2

end Wheatley
