/- What each operation of the regression rhythm can change, field by field (any `Num`).  `Reg.expect` is by
definition `{ r with expected := … }`.  Then the sets the waiting wrapper keeps. -/
import Wheatley.Model.Rhythm
namespace Wheatley
open Generated

variable {K : Type} [Num K]

theorem newDataSet_length (r : Reg K) (row place : Nat) (t w : K) :
    (r.newDataSet row place t w).length ≤ r.dataSet.length + 1 ∧
      (((r.newDataSet row place t w).length : Int) < r.maxBells ∨
        (r.newDataSet row place t w).length ≤ r.dataSet.length) := by
  have h := List.length_filter_le (fun d : K × K × K => decide (Num.ofQ weightRejectionThreshold < d.2.2))
    (r.dataSet ++ [(r.blowTime row place, t, w)])
  rw [List.length_append, List.length_singleton] at h
  unfold Reg.newDataSet
  simp only []
  split
  · rw [List.length_tail]
    exact ⟨Nat.le_trans (Nat.sub_le _ 1) h, .inr (Nat.sub_le_of_le_add h)⟩
  · exact ⟨h, .inl (Int.not_le.mp ‹_›)⟩

theorem newDataSet_length_le_one (r : Reg K) (row place : Nat) (t w : K) (h : r.dataSet = []) :
    (r.newDataSet row place t w).length ≤ 1 := by
  have := (newDataSet_length r row place t w).1
  rwa [h, List.length_nil] at this

theorem relerp_eq (r : Reg K) (fit : K × K) (i : K) :
    r.relerp fit i =
      { r with start := (match r.start with | .fin s => .fin (lerp fit.1 s i) | .inf => .inf),
               interval := lerp fit.2 r.interval i } := by
  unfold Reg.relerp
  cases r.start <;> rfl

theorem addDataPoint_unfitted (r : Reg K) (reg : List (K × K × K) → K × K) (row place : Nat) (t w : K)
    (h : Num.eqb (if 0 < row then r.preferredInertia else r.initialInertia) (Num.ofNat 1) = true ∨
         ¬ r.minBells ≤ ((r.newDataSet row place t w).length : Int)) :
    r.addDataPoint reg row place t w = { r with dataSet := r.newDataSet row place t w } := by
  unfold Reg.addDataPoint
  rcases h with h | h
  · exact if_pos h
  · simp only [if_neg h, ite_self]

theorem addDataPoint_first (r : Reg K) (reg : List (K × K × K) → K × K) (row place : Nat) (t w : K)
    (h : r.dataSet = []) (hmin : 2 ≤ r.minBells) :
    r.addDataPoint reg row place t w = { r with dataSet := r.newDataSet row place t w } :=
  addDataPoint_unfitted r reg row place t w
    (.inr (by have := newDataSet_length_le_one r row place t w h; omega))

theorem addDataPoint_fitted (r : Reg K) (reg : List (K × K × K) → K × K) (row place : Nat) (t w : K)
    (h1 : Num.eqb (if 0 < row then r.preferredInertia else r.initialInertia) (Num.ofNat 1) = false)
    (h2 : r.minBells ≤ ((r.newDataSet row place t w).length : Int)) :
    ∃ n own x, r.addDataPoint reg row place t w =
      ({ r with dataSet := r.newDataSet row place t w, nReg := n, lastOwn := own, lastX := x } : Reg K).relerp
        (reg (r.newDataSet row place t w)) (if 0 < row then r.preferredInertia else r.initialInertia) := by
  unfold Reg.addDataPoint
  simp only [h1, Bool.false_eq_true, if_false, if_pos h2]
  exact ⟨_, _, _, rfl⟩

theorem addDataPoint_eq (r : Reg K) (reg : List (K × K × K) → K × K) (row place : Nat) (t w : K) :
    ∃ n own x s i, (r.start = .inf → s = .inf) ∧ r.addDataPoint reg row place t w =
      { r with dataSet := r.newDataSet row place t w, nReg := n, lastOwn := own, lastX := x,
               start := s, interval := i } := by
  cases h1 : Num.eqb (if 0 < row then r.preferredInertia else r.initialInertia) (Num.ofNat 1) with
  | true => exact ⟨_, _, _, _, _, id, addDataPoint_unfitted r reg row place t w (.inl h1)⟩
  | false =>
    by_cases h2 : r.minBells ≤ ((r.newDataSet row place t w).length : Int)
    · obtain ⟨n, own, x, e⟩ := addDataPoint_fitted r reg row place t w h1 h2
      exact ⟨n, own, x, _, _, fun h => by simp only [h], e.trans (relerp_eq _ _ _)⟩
    · exact ⟨_, _, _, _, _, id, addDataPoint_unfitted r reg row place t w (.inr h2)⟩

theorem addDataPoint_start_inf (r : Reg K) (reg : List (K × K × K) → K × K) (row place : Nat) (t w : K)
    (h : r.start = .inf) : (r.addDataPoint reg row place t w).start = .inf := by
  obtain ⟨_, _, _, _, _, hs, e⟩ := addDataPoint_eq r reg row place t w
  rw [e]
  exact hs h

omit [Num K] in
theorem lookupExpected_mem {r : Reg K} {bell : Nat} {hand : Bool} {rp : Nat × Nat}
    (h : r.lookupExpected bell hand = some rp) : ((bell, hand), rp) ∈ r.expected := by
  unfold Reg.lookupExpected at h
  split at h
  · rename_i p hp
    obtain ⟨k, v⟩ := p
    cases h
    have hk := List.find?_some hp
    cases eq_of_beq hk
    exact List.mem_of_find?_eq_some hp
  · cases h

theorem onBellRing_none (r : Reg K) (wt : K → K) (reg : List (K × K × K) → K × K) (bell : Nat) (hand : Bool) (t : K)
    (h : r.lookupExpected bell hand = none) : r.onBellRing wt reg bell hand t = r := by
  simp only [Reg.onBellRing, h]

theorem onBellRing_some (r : Reg K) (wt : K → K) (reg : List (K × K × K) → K × K) (bell : Nat) (hand : Bool) (t : K)
    (row place : Nat) (h : r.lookupExpected bell hand = some (row, place)) :
    ∃ w, r.onBellRing wt reg bell hand t =
      { ({ r with start := if Num.eqb (r.blowTime row place) (Num.ofNat 0) = true then .fin t else r.start } :
            Reg K).addDataPoint reg row place t w with
        expected := r.expected.filter (fun p => p.1 != (bell, hand)) } := by
  have h1 : (if Num.eqb (r.blowTime row place) (Num.ofNat 0) = true then { r with start := .fin t } else r) =
      ({ r with start := if Num.eqb (r.blowTime row place) (Num.ofNat 0) = true then .fin t else r.start } : Reg K) := by
    split <;> rfl
  simp only [Reg.onBellRing, h, h1]
  generalize (ite (r.dataSet.length ≤ 1) _ _ : K) = w
  -- the data point leaves the expectations alone: the model filters those it finds afterwards, which are those of `r`
  obtain ⟨_, _, _, _, _, -, e⟩ := addDataPoint_eq _ reg row place t w
  exact ⟨w, by rw [e]⟩

theorem onBellRing_eq (r : Reg K) (wt : K → K) (reg : List (K × K × K) → K × K) (bell : Nat) (hand : Bool) (t : K) :
    ∃ ds n own x s i e, (ds = r.dataSet ∨ ∃ row place w, ds = r.newDataSet row place t w) ∧
      (∀ p ∈ e, p ∈ r.expected) ∧
      r.onBellRing wt reg bell hand t =
        { r with dataSet := ds, nReg := n, lastOwn := own, lastX := x, start := s, interval := i, expected := e } := by
  cases h : r.lookupExpected bell hand with
  | none =>
    exact ⟨r.dataSet, r.nReg, r.lastOwn, r.lastX, r.start, r.interval, r.expected, .inl rfl, fun _ h => h,
      onBellRing_none r wt reg bell hand t h⟩
  | some p =>
    obtain ⟨w, e⟩ := onBellRing_some r wt reg bell hand t p.1 p.2 h
    obtain ⟨n, own, x, s, i, -, e'⟩ := addDataPoint_eq _ reg p.1 p.2 t w
    rw [e, e']
    exact ⟨_, n, own, x, s, i, _, .inr ⟨p.1, p.2, w, rfl⟩, fun _ h => (List.mem_filter.mp h).1, rfl⟩

theorem initialiseLine_eq (r : Reg K) (reg : List (K × K × K) → K × K) (stage : Nat) (ut : Bool) (t : K) :
    ∃ ds n own x i, (ds = [] ∨ ds = (r.resetForTouch stage).newDataSet 0 0 t (Num.ofNat 1)) ∧
      r.initialiseLine reg stage ut t =
        { r with stage := stage, dataSet := ds, nReg := n, lastOwn := own, lastX := x,
                 start := if ut then .inf else .fin t, interval := i } := by
  unfold Reg.initialiseLine
  cases ut with
  | true => exact ⟨_, _, _, _, _, .inl rfl, rfl⟩
  | false =>
    obtain ⟨n, own, x, s, i, -, e⟩ := addDataPoint_eq (r.resetForTouch stage) reg 0 0 t (Num.ofNat 1)
    simp only [Bool.not_false, if_true, e]
    exact ⟨_, n, own, x, i, .inr rfl, rfl⟩

theorem changePealSpeed_eq (r : Reg K) (v t : K) :
    ∃ s i, (r.start = .inf → s = .inf) ∧
      r.changePealSpeed v t = { r with pealSpeed := v, start := s, interval := i } := by
  unfold Reg.changePealSpeed
  simp only []
  split
  · exact ⟨_, _, id, rfl⟩
  · split
    · rename_i hs
      exact ⟨_, _, (fun h => by cases hs.symm.trans h), rfl⟩
    · exact ⟨r.start, _, id, rfl⟩

section Wrapper
omit [Num K]

theorem mem_setAdd (l : List Nat) (a b : Nat) : b ∈ setAdd l a ↔ b ∈ l ∨ b = a := by
  unfold setAdd
  split
  · rename_i h
    exact ⟨Or.inl, fun hb => hb.elim id fun e => e ▸ List.contains_iff_mem.mp h⟩
  · rw [List.mem_append, List.mem_singleton]

theorem mem_setDel (l : List Nat) (a b : Nat) : b ∈ setDel l a ↔ b ∈ l ∧ b ≠ a := by
  unfold setDel
  simp [List.mem_filter]

theorem expected_setExpected (wr : WaitR K) (h h' : Bool) (l : List Nat) :
    (wr.setExpected h l).expected h' = if h' = h then l else wr.expected h' := by
  cases h <;> cases h' <;> rfl

theorem expected_setEarly (wr : WaitR K) (h h' : Bool) (l : List Nat) :
    (wr.setEarly h l).expected h' = wr.expected h' := by
  cases h <;> rfl

theorem early_setEarly (wr : WaitR K) (h h' : Bool) (l : List Nat) :
    (wr.setEarly h l).early h' = if h' = h then l else wr.early h' := by
  cases h <;> cases h' <;> rfl

theorem early_setExpected (wr : WaitR K) (h h' : Bool) (l : List Nat) :
    (wr.setExpected h l).early h' = wr.early h' := by
  cases h <;> rfl

theorem onBellRing_on_stroke (wr : WaitR K) (bell : Nat) :
    wr.onBellRing bell wr.currentHand =
      (wr.setExpected wr.currentHand (setDel (wr.expected wr.currentHand) bell)).setEarly (!wr.currentHand)
        (setDel (wr.early (!wr.currentHand)) bell) := by
  unfold WaitR.onBellRing
  rw [if_pos (beq_self_eq_true _)]
  obtain ⟨_ | _, _, _, _, _, _, _⟩ := wr <;> rfl

theorem onBellRing_off_stroke (wr : WaitR K) (bell : Nat) (hand : Bool) (h : hand ≠ wr.currentHand) :
    wr.onBellRing bell hand = wr.setEarly (!wr.currentHand) (setAdd (wr.early (!wr.currentHand)) bell) := by
  unfold WaitR.onBellRing
  rw [if_neg (by simpa using h)]

theorem shouldReturn_onBellRing (wr : WaitR K) (b : Nat) (h : Bool) :
    (wr.onBellRing b h).shouldReturn = wr.shouldReturn := by
  obtain ⟨_ | _, _, _, _, _, _, _⟩ := wr <;> cases h <;> rfl

end Wrapper

end Wheatley
