import Wheatley.Model.Row
namespace Wheatley

/-! The three steps of the loop (a suffix too short to swap in is returned as it is: `permuteAux.eq_2`). -/

theorem permuteAux_named {stage i : Nat} {places : Places} (h1 : i < stage) (h2 : i ∈ places) (a : Nat)
    (l : Row) : permuteAux stage places i (a :: l) = a :: permuteAux stage places (i + 1) l := by
  cases l with
  | nil => rfl
  | cons b rest => rw [permuteAux, if_pos h1, if_pos h2]

theorem permuteAux_swap {stage i : Nat} {places : Places} (h1 : i < stage) (h2 : i ∉ places) (a b : Nat)
    (rest : Row) :
    permuteAux stage places i (a :: b :: rest) = b :: a :: permuteAux stage places (i + 2) rest := by
  rw [permuteAux, if_pos h1, if_neg h2]

theorem permuteAux_done {stage i : Nat} {places : Places} (h : ¬ i < stage) (l : Row) :
    permuteAux stage places i l = l := by
  unfold permuteAux
  split
  · exact if_neg h
  · rfl

/-- First place that the swap loop looks at: 2 when the lead is implied, else 1. -/
def firstPlace (P : Places) : Nat := if implicitLead P then 2 else 1

theorem firstPlace_pos (P : Places) : 0 < firstPlace P := by
  unfold firstPlace; split <;> decide

theorem permute_cases (stage : Nat) (row : Row) (places : Places) :
    (permute stage row places = permuteAux stage places 1 row ∧ (firstPlace places = 1 ∨ row = [])) ∨
    ∃ a rest, row = a :: rest ∧ firstPlace places = 2 ∧
      permute stage row places = a :: permuteAux stage places 2 rest := by
  unfold firstPlace permute
  cases implicitLead places
  · exact .inl ⟨rfl, .inl rfl⟩
  · cases row with
    | nil => exact .inl ⟨rfl, .inr rfl⟩
    | cons a rest => exact .inr ⟨a, rest, rfl, rfl, rfl⟩

theorem permuteAux_map (f : Nat → Nat) (stage : Nat) (places : Places) (i : Nat) (l : Row) :
    permuteAux stage places i (l.map f) = (permuteAux stage places i l).map f := by
  fun_induction permuteAux stage places i l with
  | case1 i a b rest h1 h2 ih => exact (permuteAux_named h1 h2 (f a) _).trans (congrArg (f a :: ·) ih)
  | case2 i a b rest h1 h2 ih => exact (permuteAux_swap h1 h2 (f a) (f b) _).trans (congrArg (f b :: f a :: ·) ih)
  | case3 i a b rest h1 => exact permuteAux_done h1 _
  | case4 i l h =>
    -- `permuteAux.eq_2` does not apply: the `map` hides the shape of the list
    rcases l with _ | ⟨a, _ | ⟨b, rest⟩⟩
    · rfl
    · rfl
    · exact (h a b rest rfl).elim

theorem permute_map (f : Nat → Nat) (stage : Nat) (row : Row) (places : Places) :
    permute stage (row.map f) places = (permute stage row places).map f := by
  unfold permute
  split
  · cases row with
    | nil => rfl
    | cons a rest => exact congrArg (f a :: ·) (permuteAux_map f stage places 2 rest)
  · exact permuteAux_map f stage places 1 row

theorem permuteAux_perm (stage : Nat) (places : Places) (i : Nat) (l : Row) :
    (permuteAux stage places i l).Perm l := by
  fun_induction permuteAux stage places i l with
  | case1 i a b rest h1 h2 ih => exact ih.cons a
  | case2 i a b rest h1 h2 ih => exact ((ih.cons a).cons b).trans (.swap a b rest)
  | case3 i a b rest h1 => exact .refl _
  | case4 i l h => exact .refl _

theorem permute_perm (stage : Nat) (row : Row) (places : Places) :
    (permute stage row places).Perm row := by
  rcases permute_cases stage row places with ⟨h, -⟩ | ⟨a, rest, rfl, -, h⟩ <;> rw [h]
  · exact permuteAux_perm stage places 1 row
  · exact (permuteAux_perm stage places 2 rest).cons a

theorem permute_length (stage : Nat) (row : Row) (places : Places) :
    (permute stage row places).length = row.length :=
  (permute_perm stage row places).length_eq

theorem permuteAux_involutive (stage : Nat) (places : Places) (i : Nat) (l : Row) :
    permuteAux stage places i (permuteAux stage places i l) = l := by
  fun_induction permuteAux stage places i l with
  | case1 i a b rest h1 h2 ih => rw [permuteAux_named h1 h2, ih]
  | case2 i a b rest h1 h2 ih => rw [permuteAux_swap h1 h2, ih]
  | case3 i a b rest h1 => exact permuteAux_done h1 _
  | case4 i l h => exact permuteAux.eq_2 stage places i l h

/-- Places above the stage are never touched (offset `n` into the suffix `l` is place `i + n`). -/
theorem permuteAux_drop (stage : Nat) (places : Places) (i : Nat) (l : Row) :
    ∀ n, stage < i + n → (permuteAux stage places i l).drop n = l.drop n := by
  fun_induction permuteAux stage places i l with
  | case1 i a b rest h1 h2 ih =>
    intro n hn
    cases n with
    | zero => exact (Nat.lt_asymm h1 hn).elim
    | succ n => exact ih n (Nat.add_right_comm i 1 n ▸ hn)
  | case2 i a b rest h1 h2 ih =>
    intro n hn
    rcases n with _ | _ | n
    · exact (Nat.lt_asymm h1 hn).elim
    · exact (Nat.lt_irrefl _ (Nat.lt_of_lt_of_le h1 (Nat.le_of_lt_succ hn))).elim
    · exact ih n (Nat.add_right_comm i 2 n ▸ hn)
  | case3 i a b rest h1 => intro _ _; rfl
  | case4 i l h => intro _ _; rfl

theorem permute_drop (stage : Nat) (row : Row) (places : Places) :
    (permute stage row places).drop stage = row.drop stage := by
  rcases permute_cases stage row places with ⟨h, -⟩ | ⟨a, rest, rfl, -, h⟩ <;> rw [h]
  · exact permuteAux_drop stage places 1 row stage (Nat.add_comm stage 1 ▸ Nat.lt_succ_self stage)
  · cases stage with
    | zero => exact congrArg (a :: ·) (permuteAux_drop 0 places 2 rest 0 (Nat.zero_lt_succ _))
    | succ s => exact permuteAux_drop (s + 1) places 2 rest s (Nat.add_comm s 2 ▸ Nat.lt_succ_self (s + 1))

theorem permute_getElem?_of_le (stage : Nat) (row : Row) (places : Places) {j : Nat} (h : stage ≤ j) :
    (permute stage row places)[j]? = row[j]? := by
  have := congrArg (·[j - stage]?) (permute_drop stage row places)
  simpa only [List.getElem?_drop, Nat.add_sub_cancel' h] using this

def Adjacent (r' r : Row) : Prop :=
  ∀ k, r'[k]? = r[k]? ∨ r'[k]? = r[k+1]? ∨ (0 < k ∧ r'[k]? = r[k-1]?)

theorem Adjacent.refl (r : Row) : Adjacent r r := fun _ => .inl rfl

theorem Adjacent.cons {r' r : Row} (a : Nat) (h : Adjacent r' r) : Adjacent (a :: r') (a :: r) := by
  intro k
  cases k with
  | zero => exact .inl rfl
  | succ k =>
    rcases h k with h | h | ⟨hk, h⟩
    · exact .inl h
    · exact .inr (.inl h)
    · obtain ⟨k, rfl⟩ := Nat.exists_eq_succ_of_ne_zero (Nat.ne_of_gt hk)
      exact .inr (.inr ⟨Nat.succ_pos _, h⟩)

theorem Adjacent.swap {r' r : Row} (a b : Nat) (h : Adjacent r' r) : Adjacent (b :: a :: r') (a :: b :: r) := by
  intro k
  rcases k with _ | _ | k
  · exact .inr (.inl rfl)
  · exact .inr (.inr ⟨Nat.one_pos, rfl⟩)
  · rcases h k with h | h | ⟨hk, h⟩
    · exact .inl h
    · exact .inr (.inl h)
    · obtain ⟨k, rfl⟩ := Nat.exists_eq_succ_of_ne_zero (Nat.ne_of_gt hk)
      exact .inr (.inr ⟨Nat.succ_pos _, h⟩)

theorem permuteAux_adjacent (stage : Nat) (places : Places) (i : Nat) (l : Row) :
    Adjacent (permuteAux stage places i l) l := by
  fun_induction permuteAux stage places i l with
  | case1 i a b rest h1 h2 ih => exact ih.cons a
  | case2 i a b rest h1 h2 ih => exact ih.swap a b
  | case3 i a b rest h1 => exact .refl _
  | case4 i l h => exact .refl _

theorem permute_adjacent (stage : Nat) (row : Row) (places : Places) :
    Adjacent (permute stage row places) row := by
  rcases permute_cases stage row places with ⟨h, -⟩ | ⟨a, rest, rfl, -, h⟩ <;> rw [h]
  · exact permuteAux_adjacent stage places 1 row
  · exact (permuteAux_adjacent stage places 2 rest).cons a

end Wheatley
