/-
Association lists with unique keys behave like Python dictionaries: lookup after set / update / filter
(`alErase`, the model of `del`, is a filter).
-/
import Wheatley.Model.Bot
namespace Wheatley

def UniqueKeys {β} (l : List (Nat × β)) : Prop := (l.map (·.1)).Nodup

theorem alGet_append {β} (l r : List (Nat × β)) (k : Nat) : alGet (l ++ r) k = (alGet r k).or (alGet l k) := by
  simp only [alGet, List.reverse_append, List.find?_append]
  cases r.reverse.find? _ <;> rfl

theorem alGet_singleton {β} (k : Nat) (v : β) (k' : Nat) : alGet [(k, v)] k' = if k' = k then some v else none := by
  rw [alGet, List.reverse_singleton, List.find?_singleton]
  by_cases e : k' = k
  · rw [if_pos e, if_pos (beq_iff_eq.mpr e.symm)]
  · rw [if_neg e, if_neg (fun h => e (beq_iff_eq.mp h).symm)]

theorem alGet_eq_some_iff {β} {l : List (Nat × β)} (h : UniqueKeys l) {k : Nat} {v : β} :
    alGet l k = some v ↔ (k, v) ∈ l := by
  induction l generalizing v with
  | nil => exact ⟨nofun, nofun⟩
  | cons p l ih =>
    obtain ⟨hp, hl⟩ := List.nodup_cons.mp h
    rw [← List.singleton_append, alGet_append, Option.or_eq_some_iff, ih hl, alGet_singleton, List.mem_append,
      List.mem_singleton, Option.ite_none_right_eq_some]
    constructor
    · rintro (hm | ⟨-, e, hv⟩)
      · exact .inr hm
      · exact .inl (Prod.ext e (Option.some.inj hv).symm)
    · rintro (rfl | hm)
      · refine .inr ⟨Option.eq_none_iff_forall_ne_some.mpr fun w hw => ?_, rfl, rfl⟩
        exact hp (List.mem_map.mpr ⟨_, (ih hl).mp hw, rfl⟩)
      · exact .inl hm

theorem uniqueKeys_filter {β} (l : List (Nat × β)) (p : Nat × β → Bool) (h : UniqueKeys l) :
    UniqueKeys (l.filter p) :=
  (List.filter_sublist.map _).nodup h

theorem uniqueKeys_alSet {β} (l : List (Nat × β)) (k : Nat) (v : β) (h : UniqueKeys l) :
    UniqueKeys (alSet l k v) := by
  unfold alSet UniqueKeys
  rw [List.map_append, List.nodup_append]
  refine ⟨uniqueKeys_filter l _ h, List.pairwise_singleton _ _, ?_⟩
  intro a ha b hb
  obtain ⟨x, hx, rfl⟩ := List.mem_map.mp ha
  rw [List.mem_singleton.mp hb]
  simpa using (List.mem_filter.mp hx).2

theorem alGet_filter {β} (l : List (Nat × β)) (h : UniqueKeys l) (p : Nat × β → Bool) (k : Nat) :
    alGet (l.filter p) k = match alGet l k with
      | some v => if p (k, v) then some v else none
      | none => none := by
  -- the `match` is `Option.filter` written out
  have e : alGet (l.filter p) k = (alGet l k).filter fun v => p (k, v) := by
    ext v
    rw [alGet_eq_some_iff (uniqueKeys_filter l p h), List.mem_filter, ← alGet_eq_some_iff h, Option.filter_eq_some_iff]
  rw [e]
  cases alGet l k <;> rfl

/-- `d[k] = v` then `d.get(k')`. -/
theorem alGet_alSet {β} (l : List (Nat × β)) (h : UniqueKeys l) (k k' : Nat) (v : β) :
    alGet (alSet l k v) k' = if k' = k then some v else alGet l k' := by
  rw [alSet, alGet_append, alGet_singleton, alGet_filter l h]
  by_cases hk : k' = k
  · rw [if_pos hk, if_pos hk]; rfl
  · rw [if_neg hk, if_neg hk, Option.none_or]
    cases alGet l k' <;> simp [hk]

theorem uniqueKeys_foldl_alSet {β} (us : List (Nat × β)) (l : List (Nat × β)) (h : UniqueKeys l) :
    UniqueKeys (us.foldl (fun m p => alSet m p.1 p.2) l) := by
  induction us generalizing l with
  | nil => exact h
  | cons u us ih => exact ih _ (uniqueKeys_alSet l u.1 u.2 h)

/-- `d.update(us)` looks up like the entries of `us` written after those of `d`. -/
theorem alGet_foldl_alSet {β} (us : List (Nat × β)) (l : List (Nat × β)) (h : UniqueKeys l) (k : Nat) :
    alGet (us.foldl (fun m p => alSet m p.1 p.2) l) k = alGet (l ++ us) k := by
  induction us generalizing l with
  | nil => rw [List.append_nil]; rfl
  | cons u us ih =>
    rw [List.foldl_cons, ih _ (uniqueKeys_alSet l u.1 u.2 h), ← List.singleton_append, ← List.append_assoc,
      alGet_append, alGet_append _ us, alGet_alSet l h, alGet_append, alGet_singleton]
    by_cases hk : k = u.1
    · rw [if_pos hk, if_pos hk]; rfl
    · rw [if_neg hk, if_neg hk]; rfl

end Wheatley
