/-
Facts about the command-line model (`Model/Cli.lean`): what `argparse` leaves in each destination, and what
`console_main` does with it.
-/
import Wheatley.Model.Cli
namespace Wheatley.Cli
open Wheatley.Parse

/-! ### What a fold of `store` actions leaves in one destination

`π` reads the destination out of the state; the hypothesis `h` says what one action does to it.  Neither fact is
particular to `Args.set`: the lemmas for the single options below only supply `h`, by cases on the option
(closed by `eq_refl`: the macro `rfl` would first try `Iff.rfl` and `HEq.rfl` on each of the eighteen goals). -/

theorem foldl_last {σ ο α} (step : σ → ο → σ) (π : σ → α) (val : ο → Option α)
    (h : ∀ s o, π (step s o) = (val o).getD (π s)) (os : List ο) :
    ∀ s, π (os.foldl step s) = (os.filterMap val).getLast?.getD (π s) := by
  induction os with
  | nil => intro s; rfl
  | cons o os ih =>
    intro s
    rw [List.foldl_cons, ih, h, List.filterMap_cons]
    cases val o <;> simp [List.getLast?_cons]

theorem foldl_switch {σ ο} [DecidableEq ο] (step : σ → ο → σ) (π : σ → Bool) (sw : ο)
    (h : ∀ s o, π (step s o) = (decide (o = sw) || π s)) (os : List ο) :
    ∀ s, π (os.foldl step s) = (π s || decide (sw ∈ os)) := by
  induction os with
  | nil => intro s; simp
  | cons o os ih => intro s; rw [List.foldl_cons, ih, h]; simp [Bool.or_assoc, Bool.or_comm, eq_comm]

theorem parse_udi (os : List Opt) : (parseOpts os).udi = decide (Opt.udi ∈ os) :=
  foldl_switch Args.set Args.udi .udi (fun _ o => by cases o <;> eq_refl) os {}

theorem parse_sar (os : List Opt) : (parseOpts os).sar = decide (Opt.sar ∈ os) :=
  foldl_switch Args.set Args.sar .sar (fun _ o => by cases o <;> eq_refl) os {}

theorem parse_handbell (os : List Opt) : (parseOpts os).handbell = decide (Opt.handbell ∈ os) :=
  foldl_switch Args.set Args.handbell .handbell (fun _ o => by cases o <;> eq_refl) os {}

theorem parse_noCalls (os : List Opt) : (parseOpts os).noCalls = decide (Opt.noCalls ∈ os) :=
  foldl_switch Args.set Args.noCalls .noCalls (fun _ o => by cases o <;> eq_refl) os {}

theorem parse_keepGoing (os : List Opt) : (parseOpts os).keepGoing = decide (Opt.keepGoing ∈ os) :=
  foldl_switch Args.set Args.keepGoing .keepGoing (fun _ o => by cases o <;> eq_refl) os {}

def bobsGiven (os : List Opt) : List (List Char) := os.filterMap fun | .bob v => some v | _ => none
def singlesGiven (os : List Opt) : List (List Char) := os.filterMap fun | .single v => some v | _ => none
def speedsGiven (os : List Opt) : List (List Char) := os.filterMap fun | .pealSpeed v => some v | _ => none
def namesGiven (os : List Opt) : List (List Char) := os.filterMap fun | .name v => some v | _ => none
def gapsGiven (os : List Opt) : List Nat := os.filterMap fun | .gap v => some v | _ => none
def inertiasGiven (os : List Opt) : List Nat := os.filterMap fun | .inertia v => some v | _ => none
def maxBellsGiven (os : List Opt) : List Int := os.filterMap fun | .maxBells v => some v | _ => none
def startIndicesGiven (os : List Opt) : List Int := os.filterMap fun | .startIndex v => some v | _ => none

theorem parse_bob (os : List Opt) : (parseOpts os).bob = (bobsGiven os).getLast?.getD Generated.cliBob.toList :=
  foldl_last Args.set Args.bob _ (fun _ o => by cases o <;> eq_refl) os {}

theorem parse_single (os : List Opt) :
    (parseOpts os).single = (singlesGiven os).getLast?.getD Generated.cliSingle.toList :=
  foldl_last Args.set Args.single _ (fun _ o => by cases o <;> eq_refl) os {}

theorem parse_pealSpeed (os : List Opt) :
    (parseOpts os).pealSpeed = (speedsGiven os).getLast?.getD Generated.cliPealSpeed.toList :=
  foldl_last Args.set Args.pealSpeed _ (fun _ o => by cases o <;> eq_refl) os {}

theorem parse_gap (os : List Opt) : (parseOpts os).gap = (gapsGiven os).getLast?.getD Generated.cliGapBits :=
  foldl_last Args.set Args.gap _ (fun _ o => by cases o <;> eq_refl) os {}

theorem parse_inertia (os : List Opt) :
    (parseOpts os).inertia = (inertiasGiven os).getLast?.getD Generated.cliInertiaBits :=
  foldl_last Args.set Args.inertia _ (fun _ o => by cases o <;> eq_refl) os {}

theorem parse_maxBells (os : List Opt) :
    (parseOpts os).maxBells = (maxBellsGiven os).getLast?.getD Generated.cliMaxBells :=
  foldl_last Args.set Args.maxBells _ (fun _ o => by cases o <;> eq_refl) os {}

theorem foldl_startIndex (os : List Opt) :
    ∀ a : Args, (os.foldl Args.set a).startIndex = (startIndicesGiven os).getLast?.getD a.startIndex :=
  foldl_last Args.set Args.startIndex _ (fun _ o => by cases o <;> eq_refl) os

/-- The name's destination holds an `Option`: the value stored is `some` of the one given. -/
theorem parse_name (os : List Opt) : (parseOpts os).name = (namesGiven os).getLast? := by
  rw [parseOpts, foldl_last Args.set Args.name (fun o => (match o with | .name v => some v | _ => none).map some)
    (fun _ o => by cases o <;> eq_refl) os {}, ← List.map_filterMap, List.getLast?_map]
  show ((namesGiven os).getLast?.map some).getD none = _
  cases (namesGiven os).getLast? <;> rfl

theorem startRowOk_of_accepted (a : Args) (h : ∀ s, a.startRow = some s → ∃ n, startRow s = .ok n) :
    startRowOk a = true := by
  unfold startRowOk
  cases hs : a.startRow with
  | none => rfl
  | some s => obtain ⟨n, hn⟩ := h s hs; simp only [hn]

/-- `create_row_generator` never "fails" with a built configuration (its failures are refusals). -/
theorem createRowGenerator_error (c : Chars) (a : Args) (u : Option (List Char × List Char)) (cfg : Cfg) :
    createRowGenerator c a u ≠ .error (.built cfg) := by
  fun_cases createRowGenerator c a u <;> rintro ⟨⟩

theorem consoleArgs_built (c : Chars) (a : Args) (u : Option (List Char × List Char)) (cfg : Cfg)
    (h : consoleArgs c a u = .built cfg) :
    ∃ src minutes, createRowGenerator c a u = .ok src ∧ pealSpeed c a.pealSpeed = .ok minutes ∧
      cfg = { source := src, udi := a.udi || a.handbell, sar := a.sar || a.handbell, callComps := !a.noCalls,
              useWait := !a.keepGoing, pealSpeed := minutes, inertia := a.inertia, gap := a.gap,
              maxBells := a.maxBells, minBells := min (Generated.minBellsInDataset : Int) a.maxBells,
              name := a.name } := by
  revert h
  fun_cases consoleArgs c a u
  -- `create_row_generator`'s refusal is handed on as it is
  case case2 => rintro rfl; exact absurd ‹_› (createRowGenerator_error c a u cfg)
  case case5 => intro h; cases h; exact ⟨_, _, ‹_›, ‹_›, rfl⟩
  all_goals nofun

theorem pn_builds (c : Chars) (a : Args) (u : Option (List Char × List Char)) (text pn : List Char) (stage : Nat)
    (b s : List (Int × List Char)) (g : Gen)
    (hc : a.comp = none) (hm : a.method = none) (hp : a.pn = some text)
    (hpn : placeNotation c text = .ok (stage, pn)) (hb : callDef c a.bob = .ok b) (hs : callDef c a.single = .ok s)
    (hg : mkPN stage pn (some b) (some s) a.startIndex a.startRow = some g) :
    createRowGenerator c a u = .ok (.gen g) := by
  unfold createRowGenerator
  simp [hc, hm, hp, hpn, hb, hs, hg]

/-- What is built, field by field, in terms of the options as given (the generator apart: `pn_builds`). -/
structure Built (c : Chars) (os : List Opt) (cfg : Cfg) : Prop where
  udi : cfg.udi = (decide (Opt.udi ∈ os) || decide (Opt.handbell ∈ os))
  sar : cfg.sar = (decide (Opt.sar ∈ os) || decide (Opt.handbell ∈ os))
  callComps : cfg.callComps = !decide (Opt.noCalls ∈ os)
  useWait : cfg.useWait = !decide (Opt.keepGoing ∈ os)
  inertia : cfg.inertia = (inertiasGiven os).getLast?.getD Generated.cliInertiaBits
  gap : cfg.gap = (gapsGiven os).getLast?.getD Generated.cliGapBits
  maxBells : cfg.maxBells = (maxBellsGiven os).getLast?.getD Generated.cliMaxBells
  minBells : cfg.minBells = min (Generated.minBellsInDataset : Int) cfg.maxBells
  name : cfg.name = (namesGiven os).getLast?
  pealSpeed : pealSpeed c ((speedsGiven os).getLast?.getD Generated.cliPealSpeed.toList) = .ok cfg.pealSpeed

theorem main_builds (c : Chars) (os : List Opt) (u : Option (List Char × List Char)) (cfg : Cfg)
    (h : consoleMain c os u = .built cfg) : Built c os cfg := by
  unfold consoleMain at h
  split at h
  · cases h
  obtain ⟨src, minutes, -, hp, rfl⟩ := consoleArgs_built c _ u cfg h
  exact {
    udi := by rw [← parse_udi, ← parse_handbell]
    sar := by rw [← parse_sar, ← parse_handbell]
    callComps := by rw [← parse_noCalls]
    useWait := by rw [← parse_keepGoing]
    inertia := parse_inertia os
    gap := parse_gap os
    maxBells := parse_maxBells os
    minBells := rfl
    name := parse_name os
    pealSpeed := parse_pealSpeed os ▸ hp }

theorem main_usage (c : Chars) (os : List Opt) (u : Option (List Char × List Char)) (h : groupOk os = false) :
    consoleMain c os u = .usage := by
  simp [consoleMain, h]

end Wheatley.Cli
