/-
Algebra of the weighted least-squares line `regress` over an arbitrary linearly ordered field.
-/
import Wheatley.Lemmas.NumField
namespace Wheatley

variable {K : Type} [Field K] [LinearOrder K] [IsStrictOrderedRing K]

/-- The five sums, by structural recursion (the model computes them with `foldl`). -/
def sW : List (K × K × K) → K
  | [] => 0
  | (_, _, w) :: ds => w + sW ds
def sWB : List (K × K × K) → K
  | [] => 0
  | (b, _, w) :: ds => w * b + sWB ds
def sWBB : List (K × K × K) → K
  | [] => 0
  | (b, _, w) :: ds => w * b * b + sWBB ds
def sWT : List (K × K × K) → K
  | [] => 0
  | (_, t, w) :: ds => w * t + sWT ds
def sWBT : List (K × K × K) → K
  | [] => 0
  | (b, t, w) :: ds => w * b * t + sWBT ds

theorem foldl_add {α : Type} (f : α → K) (S : List α → K) (h0 : S [] = 0)
    (hc : ∀ d ds, S (d :: ds) = f d + S ds) (ds : List α) (z : K) :
    ds.foldl (fun a d => a + f d) z = z + S ds := by
  induction ds generalizing z with
  | nil => rw [List.foldl_nil, h0, add_zero]
  | cons d ds ih => rw [List.foldl_cons, ih, hc, add_assoc]

def det (ds : List (K × K × K)) : K := sW ds * sWBB ds - sWB ds * sWB ds

theorem regress_eq (ds : List (K × K × K)) :
    regress ds = ((sWBB ds * sWT ds - sWB ds * sWBT ds) / det ds,
                  (sW ds * sWBT ds - sWB ds * sWT ds) / det ds) := by
  simp only [regress, det, foldl_add _ sW rfl (fun _ _ => rfl), foldl_add _ sWB rfl (fun _ _ => rfl),
    foldl_add _ sWBB rfl (fun _ _ => rfl), foldl_add _ sWT rfl (fun _ _ => rfl),
    foldl_add _ sWBT rfl (fun _ _ => rfl), num_ofNat, Nat.cast_zero, zero_add]

/-- All data points lie on the line `t = a + c·b`. -/
def OnLine (a c : K) (ds : List (K × K × K)) : Prop := ∀ d ∈ ds, d.2.1 = a + c * d.1

theorem sums_on_line (a c : K) (ds : List (K × K × K)) (h : OnLine a c ds) :
    sWT ds = a * sW ds + c * sWB ds ∧ sWBT ds = a * sWB ds + c * sWBB ds := by
  induction ds with
  | nil => simp [sWT, sW, sWB, sWBT, sWBB]
  | cons d ds ih =>
    obtain ⟨b, t, w⟩ := d
    obtain ⟨ht, hds⟩ := List.forall_mem_cons.mp h
    obtain ⟨i1, i2⟩ := ih hds
    simp only [sWT, sW, sWB, sWBT, sWBB, i1, i2, show t = a + c * b from ht]
    constructor <;> ring

/-- `sqDev ds b = Σ wⱼ (b − bⱼ)²` -/
def sqDev (ds : List (K × K × K)) (b : K) : K := sW ds * b * b - 2 * sWB ds * b + sWBB ds

theorem det_cons (b t w : K) (ds : List (K × K × K)) :
    det ((b, t, w) :: ds) = det ds + w * sqDev ds b := by
  simp only [det, sqDev, sW, sWB, sWBB]; ring

theorem sqDev_cons (b' t' w' : K) (ds : List (K × K × K)) (b : K) :
    sqDev ((b', t', w') :: ds) b = w' * (b - b') ^ 2 + sqDev ds b := by
  simp only [sqDev, sW, sWB, sWBB]; ring

def PosWeights (ds : List (K × K × K)) : Prop := ∀ d ∈ ds, 0 < d.2.2

theorem sqDev_nonneg (ds : List (K × K × K)) (hw : PosWeights ds) (b : K) : 0 ≤ sqDev ds b := by
  induction ds with
  | nil => simp [sqDev, sW, sWB, sWBB]
  | cons d ds ih =>
    obtain ⟨b', t', w'⟩ := d
    obtain ⟨hw', hds⟩ := List.forall_mem_cons.mp hw
    rw [sqDev_cons]
    exact add_nonneg (mul_nonneg (le_of_lt hw') (sq_nonneg _)) (ih hds)

theorem sqDev_pos (ds : List (K × K × K)) (hw : PosWeights ds) (b : K) (h : ∃ d ∈ ds, d.1 ≠ b) : 0 < sqDev ds b := by
  induction ds with
  | nil => obtain ⟨_, hd, _⟩ := h; cases hd
  | cons d ds ih =>
    obtain ⟨b', t', w'⟩ := d
    obtain ⟨hw', hds⟩ := List.forall_mem_cons.mp hw
    obtain ⟨e, he, hne⟩ := h
    rw [sqDev_cons]
    rcases List.mem_cons.mp he with rfl | he
    · exact add_pos_of_pos_of_nonneg (mul_pos hw' (sq_pos_of_ne_zero (sub_ne_zero.mpr (Ne.symm hne))))
        (sqDev_nonneg ds hds b)
    · exact add_pos_of_nonneg_of_pos (mul_nonneg (le_of_lt hw') (sq_nonneg _)) (ih hds ⟨e, he, hne⟩)

theorem det_nonneg (ds : List (K × K × K)) (hw : PosWeights ds) : 0 ≤ det ds := by
  induction ds with
  | nil => simp [det, sW, sWB, sWBB]
  | cons d ds ih =>
    obtain ⟨b, t, w⟩ := d
    obtain ⟨hw', hds⟩ := List.forall_mem_cons.mp hw
    rw [det_cons]
    exact add_nonneg (ih hds) (mul_nonneg (le_of_lt hw') (sqDev_nonneg ds hds b))

/-- **The system is non-singular** as soon as all weights are positive and two data points have
different blow times: `det = Σ_{i<j} wᵢ wⱼ (bᵢ − bⱼ)² > 0`. -/
theorem det_pos (ds : List (K × K × K)) (hw : PosWeights ds)
    (h : ∃ d ∈ ds, ∃ e ∈ ds, d.1 ≠ e.1) : 0 < det ds := by
  obtain ⟨d, hd, e, he, hne⟩ := h
  cases ds with
  | nil => cases hd
  | cons d0 ds =>
    obtain ⟨b, t, w⟩ := d0
    obtain ⟨hw', hds⟩ := List.forall_mem_cons.mp hw
    rw [det_cons]
    refine add_pos_of_nonneg_of_pos (det_nonneg ds hds) (mul_pos hw' (sqDev_pos ds hds b ?_))
    -- two points differ, so one of the others differs from the first
    by_contra hall
    have key : ∀ x ∈ (b, t, w) :: ds, x.1 = b :=
      List.forall_mem_cons.mpr ⟨rfl, fun x hx => by_contra fun hxb => hall ⟨x, hx, hxb⟩⟩
    exact hne ((key d hd).trans (key e he).symm)

theorem sums_moved (x0 y0 : K) (ds : List (K × K × K)) :
    let ds' := ds.map (fun d => (d.1 - x0, d.2.1 - y0, d.2.2))
    sW ds' = sW ds ∧ sWB ds' = sWB ds - x0 * sW ds ∧
    sWBB ds' = sWBB ds - 2 * x0 * sWB ds + x0 * x0 * sW ds ∧ sWT ds' = sWT ds - y0 * sW ds ∧
    sWBT ds' = sWBT ds - x0 * sWT ds - y0 * sWB ds + x0 * y0 * sW ds := by
  induction ds with
  | nil => simp [sW, sWB, sWBB, sWT, sWBT]
  | cons d ds ih =>
    obtain ⟨b, t, w⟩ := d
    obtain ⟨i0, i1, i2, i3, i4⟩ := ih
    simp only [List.map_cons, sW, sWB, sWBB, sWT, sWBT, i0, i1, i2, i3, i4]
    refine ⟨trivial, ?_, ?_, ?_, ?_⟩ <;> ring

theorem regress_moved (x0 y0 : K) (ds : List (K × K × K)) (hd : det ds ≠ 0) :
    regress (ds.map (fun d => (d.1 - x0, d.2.1 - y0, d.2.2))) =
      ((regress ds).1 + (regress ds).2 * x0 - y0, (regress ds).2) := by
  obtain ⟨e0, e1, e2, e3, e4⟩ := sums_moved x0 y0 ds
  have hdet : det (ds.map (fun d => (d.1 - x0, d.2.1 - y0, d.2.2))) = det ds := by
    simp only [det, e0, e1, e2]; ring
  rw [regress_eq, regress_eq, hdet, e0, e1, e2, e3, e4]
  -- the interval keeps its numerator; for the start the right side is brought over `det ds` first
  refine Prod.ext ?_ (congrArg (· / det ds) (by ring))
  simp only []
  rw [div_mul_eq_mul_div, ← add_div, div_sub' hd]
  exact congrArg (· / det ds) (by unfold det; ring)

theorem regressCentred_eq (ds : List (K × K × K)) (hd : det ds ≠ 0) : regressCentred ds = regress ds := by
  cases ds with
  | nil => rfl
  | cons d rest =>
    obtain ⟨x0, y0, w0⟩ := d
    simp only [regressCentred]
    rw [regress_moved x0 y0 _ hd]
    exact Prod.ext (by ring) rfl
end Wheatley
