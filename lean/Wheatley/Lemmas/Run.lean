/-
Invariants of the timed world.  `World.run` does three things only: the main thread takes a step, the socket thread
delivers an event, the clock moves.  A predicate that these keep therefore holds in every state of every run: any
fuel, any event times, any interleaving.  The predicate may speak of the events still to come (a delivery takes the
first of them away); the usual case, a predicate of the world alone for events of a class `E`, is `WorldInvariant`.
-/
import Wheatley.Model.World
namespace Wheatley
variable {K : Type} [Num K]

theorem World.sleep_keeps_pending {wt : K → K} {J : World K → List (K × Ev) → Prop}
    (clock : ∀ w t evs, J w evs → J { w with now := t } evs)
    (deliver : ∀ w ev evs, J w (ev :: evs) → J (World.deliver wt w ev.2) evs)
    (endTime : K) (w : World K) (d : K) (events : List (K × Ev)) (hw : J w events) :
    J (World.sleep wt endTime w d events).1 (World.sleep wt endTime w d events).2.1 := by
  have go : ∀ (limit : K) (events : List (K × Ev)) (w : World K), J w events →
      J (World.sleep.go wt limit w events).1 (World.sleep.go wt limit w events).2 := by
    intro limit events w
    fun_induction World.sleep.go wt limit w events with
    | case1 | case3 => exact id  -- no event left, or the next one is not yet due
    | case2 w t m rest _ _ ih =>  -- the next event is due: the clock moves to it and it is delivered
      refine fun hw => ih (deliver _ (t, m) _ ?_)
      show J (if w.now < t then _ else w) _
      split
      · exact clock w _ _ hw
      · exact hw
  unfold World.sleep
  by_cases h : endTime < w.now + d
  · simp only [if_pos h]
    exact go endTime events w hw
  · simp only [if_neg h]
    exact clock _ _ _ (go (w.now + d) events w hw)

/-- **Every state of every run**: every state the run passes through is its end for a smaller `fuel`.  `rest`: in the
instances, the events not delivered by then. -/
theorem World.run_keeps_pending {wt : K → K} {J : World K → List (K × Ev) → Prop}
    (clock : ∀ w t evs, J w evs → J { w with now := t } evs)
    (main : ∀ w evs, J w evs → J (w.mainStep wt).1 evs)
    (deliver : ∀ w ev evs, J w (ev :: evs) → J (World.deliver wt w ev.2) evs) (endTime : K)
    (fuel : Nat) (w : World K) (events : List (K × Ev)) :
    J w events → ∃ rest, J (World.run wt endTime fuel w events).1 rest := by
  have main' : ∀ {w evs w1 r}, w.mainStep wt = (w1, r) → J w evs → J w1 evs :=
    fun h hw => by have := main _ _ hw; rwa [h] at this
  have sleep' : ∀ {w d evs w2 rest e}, World.sleep wt endTime w d evs = (w2, rest, e) → J w evs → J w2 rest :=
    @fun w d evs _ _ _ h hw => by have := World.sleep_keeps_pending clock deliver endTime w d evs hw; rwa [h] at this
  fun_induction World.run wt endTime fuel w events with
  -- no fuel; the main loop has ended; it goes on at once; it sleeps past the end of the run; it sleeps and goes on
  | case1 w events => exact fun hw => ⟨events, hw⟩
  | case2 _ w events w1 h => exact fun hw => ⟨events, main' h hw⟩
  | case3 _ w events w1 h ih => exact fun hw => ih (main' h hw)
  | case4 _ w events w1 d h w2 rest hs => exact fun hw => ⟨rest, sleep' hs (main' h hw)⟩
  | case5 _ w events w1 d h w2 rest _ hs _ ih => exact fun hw => ih (sleep' hs (main' h hw))

structure WorldInvariant (wt : K → K) (I : World K → Prop) (E : Ev → Prop) : Prop where
  clock : ∀ w t, I w → I { w with now := t }
  main : ∀ w, I w → I (w.mainStep wt).1
  deliver : ∀ w e, E e → I w → I (World.deliver wt w e)

theorem WorldInvariant.run {wt : K → K} {I : World K → Prop} {E : Ev → Prop} (h : WorldInvariant wt I E)
    (endTime : K) (fuel : Nat) (w : World K) (events : List (K × Ev)) (hs : ∀ ev ∈ events, E ev.2) (hw : I w) :
    I (World.run wt endTime fuel w events).1 :=
  let ⟨_, h', _⟩ := World.run_keeps_pending (J := fun w evs => I w ∧ ∀ ev ∈ evs, E ev.2)
    (fun w t _ hj => ⟨h.clock w t hj.1, hj.2⟩) (fun w _ hj => ⟨h.main w hj.1, hj.2⟩)
    (fun w ev _ hj => ⟨h.deliver w ev.2 (hj.2 ev List.mem_cons_self) hj.1,
      fun ev' h' => hj.2 ev' (List.mem_cons_of_mem _ h')⟩)
    endTime fuel w events ⟨hw, hs⟩
  h'

end Wheatley
