/- `generate_starting_row`: the result is a permutation of rounds when the custom row fits. -/
import Wheatley.Model.Row
namespace Wheatley

theorem hasDup_false_nodup (l : List Nat) (h : hasDup l = false) : l.Nodup := by
  induction l with
  | nil => exact .nil
  | cons a l ih =>
    simp only [hasDup, Bool.or_eq_false_iff, List.contains_eq_mem, decide_eq_false_iff_not] at h
    exact List.nodup_cons.mpr ⟨h.1, ih h.2⟩

theorem rounds_eq_range' (n : Nat) : rounds n = List.range' 1 n := by
  simp [rounds, List.range'_eq_map_range, Nat.add_comm]

theorem rounds_nodup (n : Nat) : (rounds n).Nodup := rounds_eq_range' n ▸ List.nodup_range'

theorem mem_rounds (n b : Nat) : b ∈ rounds n ↔ 1 ≤ b ∧ b ≤ n := by
  rw [rounds_eq_range', List.mem_range'_1, Nat.add_comm, Nat.lt_succ_iff]

theorem each_bell_once {r : Row} {n : Nat} (h : r.Perm (rounds n)) : r.Nodup ∧ ∀ b, b ∈ r ↔ (1 ≤ b ∧ b ≤ n) :=
  ⟨h.nodup_iff.mpr (rounds_nodup n), fun b => h.mem_iff.trans (mem_rounds n b)⟩

theorem rounds_length (n : Nat) : (rounds n).length = n := by simp [rounds]

theorem appendMissing_perm (n : Nat) (c : Row) (hnd : c.Nodup) (hfit : ∀ b ∈ c, 1 ≤ b ∧ b ≤ n) :
    (appendMissing n c).Perm (rounds n) := by
  unfold appendMissing
  rw [show (List.map (· + 1) (List.range n)) = rounds n from rfl]
  refine (List.perm_ext_iff_of_nodup ?_ (rounds_nodup n)).mpr fun a => ?_
  · refine List.nodup_append.mpr ⟨hnd, (rounds_nodup n).filter _, ?_⟩
    rintro a ha _ hb rfl
    simpa [ha] using (List.mem_filter.mp hb).2
  · by_cases hc : a ∈ c
    · simp [hc, (mem_rounds n a).mpr (hfit a hc)]
    · simp [hc]

theorem startingRow_eq_some {n : Nat} {custom : Option Row} {r : Row} (h : startingRow n custom = some r) :
    (custom = none ∧ r = rounds n) ∨ ∃ c, custom = some c ∧ hasDup c = false ∧ r = appendMissing n c := by
  unfold startingRow at h
  split at h
  · exact Or.inl ⟨rfl, (Option.some.inj h).symm⟩
  · rename_i c
    split at h
    · cases h
    · rename_i hd
      exact Or.inr ⟨c, rfl, by simpa using hd, (Option.some.inj h).symm⟩

theorem startingRow_perm (n : Nat) (custom : Option Row) (r : Row)
    (h : startingRow n custom = some r) (hfit : ∀ c, custom = some c → ∀ b ∈ c, 1 ≤ b ∧ b ≤ n) :
    r.Perm (rounds n) := by
  rcases startingRow_eq_some h with ⟨-, rfl⟩ | ⟨c, rfl, hd, rfl⟩
  · exact List.Perm.refl _
  · exact appendMissing_perm n c (hasDup_false_nodup c hd) (hfit c rfl)

theorem rounds_ne_nil {n : Nat} (hn : 0 < n) : rounds n ≠ [] :=
  List.ne_nil_of_length_pos (by rw [rounds_length]; exact hn)

theorem startingRow_ne_nil {n : Nat} {custom : Option Row} {r : Row} (hn : 0 < n) (h : startingRow n custom = some r) :
    r ≠ [] := by
  have h1 : 1 ∈ rounds n := (mem_rounds n 1).mpr ⟨Nat.le_refl 1, hn⟩
  refine List.ne_nil_of_mem (a := 1) ?_
  rcases startingRow_eq_some h with ⟨-, rfl⟩ | ⟨c, -, -, rfl⟩
  · exact h1
  · by_cases hc : 1 ∈ c
    · exact List.mem_append_left _ hc
    · exact List.mem_append_right _ (List.mem_filter.mpr ⟨h1, by simpa using hc⟩)

theorem startingRow_isSome (n m : Nat) (custom : Option Row) :
    (startingRow n custom).isSome = (startingRow m custom).isSome := by
  cases custom with
  | none => rfl
  | some c => simp only [startingRow]; split <;> rfl

end Wheatley
