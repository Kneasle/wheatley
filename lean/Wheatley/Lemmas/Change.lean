/-
The change a place notation denotes, written position by position (no recursion over the row), and the
proof that `permute` computes exactly it for parity-consistent place sets.
-/
import Wheatley.Lemmas.Places
namespace Wheatley

/-- **The denotation of one change.**  The bell found in (0-based) position `j` after the change `P` on
`stage` bells has been applied to `row`:

* a place below the first (the implied lead), above the stage (a cover), or named in the notation: the bell
  that was there;
* an unnamed place with an even number of unnamed places before it: the bell from the place above (its
  partner) — or the bell itself when there is no place above to pair with (the implied external place);
* an unnamed place with an odd number of unnamed places before it: the bell from the place below. -/
def Spec.at (stage : Nat) (P : Places) (row : Row) (j : Nat) : Option Nat :=
  if row.length ≤ j then none
  else if j + 1 < firstPlace P ∨ stage < j + 1 ∨ (j + 1) ∈ P then row[j]?
  else if unmade P (firstPlace P) (j + 1) % 2 = 0 then
    (if j + 1 < stage ∧ j + 1 < row.length then row[j + 1]? else row[j]?)
  else row[j - 1]?

def Spec.apply (stage : Nat) (row : Row) (P : Places) : Row :=
  (List.range row.length).filterMap (Spec.at stage P row)

/-- `Consistent`, decided (the driver reports it with every `permute` reply). -/
def consistentB (stage : Nat) (P : Places) (i : Nat) : Bool :=
  P.all (fun q => !(decide (i ≤ q) && decide (q ≤ stage)) || unmade P i q % 2 == 0)

theorem consistentB_iff (stage : Nat) (P : Places) (i : Nat) :
    consistentB stage P i = true ↔ Consistent stage P i := by
  simp only [consistentB, Consistent, List.all_eq_true, Bool.or_eq_true, Bool.not_eq_true', Bool.and_eq_false_iff,
    decide_eq_false_iff_not, beq_iff_eq]
  exact forall₂_congr fun q _ => by rw [← Decidable.not_and_iff_not_or_not, ← Decidable.imp_iff_not_or, and_imp]

theorem filterMap_range_getElem? {α} (l : List α) :
    (List.range l.length).filterMap (fun j => l[j]?) = l := by
  induction l with
  | nil => rfl
  | cons a l ih =>
    simp only [List.length_cons, List.range_succ_eq_map, List.filterMap_cons, List.getElem?_cons_zero,
      List.filterMap_map]
    exact congrArg (a :: ·) ih

theorem permute_at (stage : Nat) (row : Row) (P : Places) (hc : Consistent stage P (firstPlace P))
    (j : Nat) : (permute stage row P)[j]? = Spec.at stage P row j := by
  fun_cases Spec.at stage P row j with
  | case1 hj => exact List.getElem?_eq_none (by rwa [permute_length])
  | case2 _ h => exact permute_keeps stage row P hc j h
  | case3 _ h hev hpair =>
    exact ((permute_places stage row P hc j (Nat.le_of_not_lt fun hf => h (.inl hf)) hev).2.1
      (fun hp => h (.inr (.inr hp))) hpair.1 fun e => Nat.not_le_of_lt hpair.2 (List.getElem?_eq_none_iff.mp e)).1
  | case4 _ h hev hpair =>
    exact (permute_places stage row P hc j (Nat.le_of_not_lt fun hf => h (.inl hf)) hev).2.2
      (fun hp => h (.inr (.inr hp))) ((Decidable.not_and_iff_not_or_not.mp hpair).imp
        (fun hlt => Nat.le_antisymm (Nat.le_of_not_lt fun hs => h (.inr (.inl hs))) (Nat.le_of_not_lt hlt))
        (fun hlt => List.getElem?_eq_none (Nat.le_of_not_lt hlt)))
  | case5 hj h hev =>
    -- the partner is the place below
    have hf := Nat.le_of_not_lt fun hf => h (.inl hf)
    have hs := Nat.le_of_not_lt fun hs => h (.inr (.inl hs))
    have hlt : firstPlace P < j + 1 := Nat.lt_of_le_of_ne hf fun e => hev (by rw [← e, unmade_self])
    obtain ⟨q, rfl⟩ : ∃ q, j = q + 1 :=
      Nat.exists_eq_succ_of_ne_zero fun e => Nat.not_lt_of_le (firstPlace_pos P) (e ▸ hlt)
    have hfq := Nat.le_of_lt_succ hlt
    obtain ⟨hq, hevq⟩ := hc.partner hfq (Nat.le_of_succ_le hs) hev
    exact ((permute_places stage row P hc q hfq hevq).2.1 hq hs fun e => hj (List.getElem?_eq_none_iff.mp e)).2

end Wheatley
