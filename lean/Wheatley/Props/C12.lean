/-
C12 — Wheatley moves onto a steady human rhythm.

`regress` is the closed form of `calculate_regression` (its agreement with numpy is part of the
correspondence of every timed run); `Reg.addDataPoint` is `_add_data_point`.  Everything holds in any
linearly ordered field.
-/
import Wheatley.Lemmas.Regress
import Wheatley.Lemmas.Rhythm
import Wheatley.Lemmas.Cli
import Wheatley.Lemmas.LiftReg
namespace Wheatley.C12
open Generated

variable {K : Type} [Field K] [LinearOrder K] [IsStrictOrderedRing K]

/-- **Exact recovery** (any weights): data on the humans' line `t = a + c·b` with a non-singular
system give back `(a, c)`. -/
theorem wls_recovers (a c : K) (ds : List (K × K × K)) (h : OnLine a c ds) (hd : det ds ≠ 0) :
    regress ds = (a, c) := by
  obtain ⟨h1, h2⟩ := sums_on_line a c ds h
  rw [regress_eq, h1, h2]
  unfold det at hd ⊢
  exact Prod.ext ((div_eq_iff hd).mpr (by ring)) ((div_eq_iff hd).mpr (by ring))

/-- **Non-singular** whenever the weights are positive (every kept point has weight > 0.001) and two
kept strikes have different blow times. -/
theorem system_nonsingular (ds : List (K × K × K)) (hw : PosWeights ds)
    (h : ∃ d ∈ ds, ∃ e ∈ ds, d.1 ≠ e.1) : det ds ≠ 0 := ne_of_gt (det_pos ds hw h)

theorem lerp_eq (a b t : K) : lerp a b t = (1 - t) * a + t * b := by
  simp [lerp]

/-- **One update, whatever the inertia and the size of the data set**: with the kept data on the humans' line
(`a`, `c`), the distance of Wheatley's line from it is multiplied by `θ`: the inertia when a regression happens, 1
(the line stays) when the data points are still too few. -/
theorem update_error (r : Reg K) (row place : Nat) (t w s a c θ : K) (hs : r.start = .fin s)
    (hθ : θ = if r.minBells ≤ ((r.newDataSet row place t w).length : Int)
      then (if 0 < row then r.preferredInertia else r.initialInertia) else 1)
    (hline : OnLine a c (r.newDataSet row place t w)) (hdet : det (r.newDataSet row place t w) ≠ 0) :
    (r.addDataPoint regress row place t w).start = .fin (a + θ * (s - a)) ∧
    (r.addDataPoint regress row place t w).interval = c + θ * (r.interval - c) := by
  have stay : ∀ x y : K, x = y + 1 * (x - y) := fun x y => by rw [one_mul, add_sub_cancel]
  have move : ∀ x y : K, lerp y x θ = y + θ * (x - y) := fun x y => by rw [lerp_eq]; ring
  by_cases hn : r.minBells ≤ ((r.newDataSet row place t w).length : Int)
  · rw [if_pos hn] at hθ
    by_cases h1 : θ = 1
    · rw [addDataPoint_unfitted r regress row place t w (.inl (by simpa [← hθ] using h1)), h1]
      exact ⟨hs.trans (congrArg Time.fin (stay s a)), stay r.interval c⟩
    · obtain ⟨_, _, _, e⟩ := addDataPoint_fitted r regress row place t w (by simpa [← hθ] using h1) hn
      rw [e, relerp_eq, wls_recovers a c _ hline hdet, ← hθ]
      simp only [hs, move, and_self]
  · rw [addDataPoint_unfitted r regress row place t w (.inr hn), hθ, if_neg hn]
    exact ⟨hs.trans (congrArg Time.fin (stay s a)), stay r.interval c⟩

/-- **One update**: when the kept data lie on the humans' line (`a`, `c`), a regression moves Wheatley's
line to `lerp(humans' line, old line, inertia)`: the error is multiplied by the inertia. -/
theorem contraction (r : Reg K) (row place : Nat) (t w s a c : K) (hs : r.start = .fin s)
    (hi : (if 0 < row then r.preferredInertia else r.initialInertia) ≠ 1)
    (hn : r.minBells ≤ ((r.newDataSet row place t w).length : Int))
    (hline : OnLine a c (r.newDataSet row place t w)) (hdet : det (r.newDataSet row place t w) ≠ 0) :
    ∃ s', (r.addDataPoint regress row place t w).start = .fin s' ∧
      s' - a = (if 0 < row then r.preferredInertia else r.initialInertia) * (s - a) ∧
      (r.addDataPoint regress row place t w).interval - c =
        (if 0 < row then r.preferredInertia else r.initialInertia) * (r.interval - c) := by
  obtain ⟨e1, e2⟩ := update_error r row place t w s a c _ hs (if_pos hn).symm hline hdet
  exact ⟨_, e1, add_sub_cancel_left _ _, by rw [e2, add_sub_cancel_left]⟩

/-- **Inertia 0**: the line *is* the humans' line after one such update — exactly, from the first
regression onwards. -/
theorem inertia0_exact (r : Reg K) (row place : Nat) (t w s a c : K) (hs : r.start = .fin s)
    (hi : (if 0 < row then r.preferredInertia else r.initialInertia) = 0)
    (hn : r.minBells ≤ ((r.newDataSet row place t w).length : Int))
    (hline : OnLine a c (r.newDataSet row place t w)) (hdet : det (r.newDataSet row place t w) ≠ 0) :
    (r.addDataPoint regress row place t w).start = .fin a ∧
    (r.addDataPoint regress row place t w).interval = c := by
  simpa only [zero_mul, add_zero] using update_error r row place t w s a c 0 hs (by rw [if_pos hn, hi]) hline hdet

/-- **Geometric convergence**: `k` updates multiply the error by `inertia^k`; for inertia ≤ ½ that is at
most `2⁻ᵏ` of the initial error. -/
theorem geometric (i e0 : K) (k : Nat) (hi0 : 0 ≤ i) (hi : i ≤ 1 / 2) :
    |i ^ k * e0| ≤ (1 / 2) ^ k * |e0| := by
  rw [abs_mul, abs_pow, abs_of_nonneg hi0]
  exact mul_le_mul_of_nonneg_right (pow_le_pow_left₀ hi0 hi k) (abs_nonneg e0)

/-- **Fixed point**: if the humans are already on Wheatley's line nothing changes at all — for every
inertia, every human set and every data-set size. -/
theorem fixed_point (r : Reg K) (row place : Nat) (t w s : K) (hs : r.start = .fin s)
    (hline : OnLine s r.interval (r.newDataSet row place t w))
    (hdet : det (r.newDataSet row place t w) ≠ 0) :
    (r.addDataPoint regress row place t w).start = .fin s ∧
    (r.addDataPoint regress row place t w).interval = r.interval := by
  simpa only [sub_self, mul_zero, add_zero] using update_error r row place t w s s r.interval _ hs rfl hline hdet

/-- **Memory turns over**: the data set never holds more than `max − 1` points after an update, so
after that many kept strikes on a new line every remembered point lies on it. -/
theorem memory_bounded (r : Reg K) (row place : Nat) (t w : K) (hmax : 1 ≤ r.maxBells)
    (hlen : (r.dataSet.length : Int) < r.maxBells) :
    ((r.newDataSet row place t w).length : Int) < r.maxBells := by
  have := newDataSet_length r row place t w
  omega

/-- The oldest point is the one forgotten. -/
theorem forgets_oldest (r : Reg K) (row place : Nat) (t w : K) :
    r.newDataSet row place t w =
      let kept := (r.dataSet ++ [(r.blowTime row place, t, w)]).filter
        (fun d => decide (Num.ofQ weightRejectionThreshold < d.2.2))
      if r.maxBells ≤ (kept.length : Int) then kept.tail else kept := rfl

/-! Non-vacuity: three strikes on the line `t = 10 + 2·b` with unequal weights. -/
example : regress [((0 : ℚ), 10, 1), (1, 12, 1 / 2), (3, 16, 1 / 5)] = (10, 2) := by
  apply wls_recovers
  · simp only [OnLine, List.forall_mem_cons]; norm_num
  · simp only [det, sW, sWB, sWBB]; norm_num

/-- The fit the driver evaluates at `Float` to cross-check the implementation's `numpy.linalg`
results (about the first data point, so that no digits are lost to the size of the blow index or of
the epoch) is the same function as the `regress` of the theorems above. -/
theorem centred_evaluation_is_the_same_fit (ds : List (K × K × K)) (hd : det ds ≠ 0) :
    regressCentred ds = regress ds := regressCentred_eq ds hd

/-- **Every touch is fitted to its own strikes**: `initialise_line` empties the data set, whoever leads
(when Wheatley leads, its own first blow is the only point left), so nothing heard in an earlier touch of
the session takes part in any regression of the new one. -/
theorem look_to_forgets_data (r : Reg K) (reg : List (K × K × K) → K × K) (stage : Nat) (t : K) :
    (r.initialiseLine reg stage true t).dataSet = [] ∧
    (r.initialiseLine reg stage false t).dataSet.length ≤ 1 := by
  refine ⟨rfl, ?_⟩
  obtain ⟨ds, _, _, _, _, hds, e⟩ := initialiseLine_eq r reg stage false t
  rw [e]
  rcases hds with rfl | rfl
  · exact Nat.zero_le 1
  · exact newDataSet_length_le_one _ 0 0 t _ rfl

section System

def Mem (r : Reg K) : Prop := 1 ≤ r.maxBells ∧ (r.dataSet.length : Int) < r.maxBells

theorem memInvariant : RegInvariant (Mem (K := K)) :=
  { bellRing := fun r wt g bell hand t h => by
      obtain ⟨ds, _, _, _, _, _, _, hds, -, e⟩ := onBellRing_eq r wt g bell hand t
      rw [e]
      rcases hds with rfl | ⟨row, place, w, rfl⟩
      · exact h
      · exact ⟨h.1, memory_bounded r row place t w h.1 h.2⟩
    init := fun r g stage ut t h => by
      obtain ⟨ds, _, _, _, _, hds, e⟩ := initialiseLine_eq r g stage ut t
      have h0 : Mem (r.resetForTouch stage) := ⟨h.1, lt_of_lt_of_le Int.zero_lt_one h.1⟩
      rw [e]
      rcases hds with rfl | rfl
      · exact h0
      · exact ⟨h.1, memory_bounded _ 0 0 t _ h0.1 h0.2⟩
    expect := fun _ _ _ _ _ h => h
    speed := fun r s t h => by
      obtain ⟨_, _, -, e⟩ := changePealSpeed_eq r s t
      rw [e]; exact h
    flag := fun _ _ h => h
    inertia := fun _ _ h => h }

/-- **The memory turns over - in every run.**  In every state of every run, for *all* events at any times (strikes
early, late or wrong, Look To and its sleeping handler, speed and inertia settings, Stop Touch, several touches),
the regression holds fewer than `max_bells` strikes.  So once the band has struck that many times on a new line,
nothing of the old line is left in what Wheatley fits (`forgets_oldest`: it is the oldest point that goes), and
`wls_recovers` puts the fit on the new line. -/
theorem memory_stays_bounded (wt : K → K) (endTime : K) (fuel : Nat) (w : World K) (events : List (K × Ev))
    (h : Mem w.rh.reg) :
    ((World.run wt endTime fuel w events).1.rh.reg.dataSet.length : Int) <
      (World.run wt endTime fuel w events).1.rh.reg.maxBells :=
  (memInvariant.run wt endTime fuel w events h).2

/-- A newly created rhythm (empty data set, `max_bells ≥ 1`) satisfies the invariant. -/
example : Mem (Reg.init (1 : ℚ) 180 1 4 15 0) := by
  constructor <;> decide

/-- What the command line fixed: the two memory bounds, the inertia of the first row and the handstroke gap. -/
def cfgOf (r : Reg K) : Int × Int × K × K := (r.minBells, r.maxBells, r.initialInertia, r.gap)

theorem cfgInvariant (c : Int × Int × K × K) : RegInvariant (fun r : Reg K => cfgOf r = c) :=
  { bellRing := fun r wt g bell hand t h => by
      obtain ⟨_, _, _, _, _, _, _, -, -, e⟩ := onBellRing_eq r wt g bell hand t
      rw [e]; exact h
    init := fun r g stage ut t h => by
      obtain ⟨_, _, _, _, _, -, e⟩ := initialiseLine_eq r g stage ut t
      rw [e]; exact h
    expect := fun _ _ _ _ _ h => h
    speed := fun r s t h => by
      obtain ⟨_, _, -, e⟩ := changePealSpeed_eq r s t
      rw [e]; exact h
    flag := fun _ _ h => h
    inertia := fun _ _ h => h }

/-- **The values given on the command line are the values used, throughout**: in every state of every run, for all
events (settings from the server included - they reach the peal speed and the running inertia only), the rhythm's
memory bounds (`-X`, and the minimum of four), the inertia of the first row and the handstroke gap are what the
rhythm was created with (`cli_memory` below says what that is). -/
theorem configuration_never_changes (wt : K → K) (endTime : K) (fuel : Nat) (w : World K) (events : List (K × Ev)) :
    cfgOf (World.run wt endTime fuel w events).1.rh.reg = cfgOf w.rh.reg :=
  (cfgInvariant (cfgOf w.rh.reg)).run wt endTime fuel w events rfl

end System

/-- The size of the memory is the last `-X` given (else the default); the number of strikes needed before the
first regression is four, or that size when it is smaller. -/
theorem cli_memory (c : Parse.Chars) (os : List Cli.Opt) (u : Option (List Char × List Char)) (cfg : Cli.Cfg)
    (h : Cli.consoleMain c os u = .built cfg) :
    cfg.maxBells = (Cli.maxBellsGiven os).getLast?.getD Generated.cliMaxBells ∧
    cfg.minBells = min (Generated.minBellsInDataset : Int) cfg.maxBells :=
  ⟨(Cli.main_builds c os u cfg h).maxBells, (Cli.main_builds c os u cfg h).minBells⟩

end Wheatley.C12
