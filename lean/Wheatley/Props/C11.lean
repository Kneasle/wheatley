/-
C11 — left alone, Wheatley rings at exactly the configured peal speed and gap.

All statements hold in every linearly ordered field `K` (exact arithmetic); the functions
`pealSpeedToBlowInterval`, `indexToBlowTime`, `indexToRealTime` are the ones regenerated from
`regression.py` on every run.
-/
import Wheatley.Lemmas.NumField
import Wheatley.Lemmas.Rhythm
import Wheatley.Model.Solo
import Wheatley.Lemmas.SoloWorld
import Wheatley.Lemmas.Cli
namespace Wheatley.C11
open Generated

variable {K : Type} [Field K] [LinearOrder K] [IsStrictOrderedRing K]

theorem interval_formula (m : K) (N : Nat) :
    pealSpeedToBlowInterval m N = m * 60 / 2520 / (2 * (N : K) + 1) := by
  simp only [pealSpeedToBlowInterval, num_ofNat]
  push_cast
  rw [mul_comm (N : K)]

/-- The position of (row `r`, place `p`) in blows: `r·N + p + ⌊r/2⌋·g`. -/
theorem blow_index (s : Line K) (r p : Nat) :
    indexToBlowTime s r p = ((r * s.stage + p : Nat) : K) + ((r / 2 : Nat) : K) * s.gap := by
  simp only [indexToBlowTime, num_ofNat]

/-- … and its real time on the line: `start + I · (r·N + p + ⌊r/2⌋·g)`. -/
theorem real_time (s : Line K) (r p : Nat) :
    indexToRealTime s r p = s.start + s.interval * (((r * s.stage + p : Nat) : K) + ((r / 2 : Nat) : K) * s.gap) := by
  simp only [indexToRealTime, blowTimeToRealTime, blow_index]

/-- Look To anchors the line: when Wheatley leads, `start = Look To time + 3 s` (the constant is
regenerated from `LOOK_TO_DURATION`), stage and gap are the configured ones, and — one data point
being too few for a regression — the interval is the configured one. -/
theorem line_after_look_to (r : Reg K) (reg : List (K × K × K) → K × K) (stage : Nat) (startTime : K)
    (hmin : 2 ≤ r.minBells) :
    (r.initialiseLine reg stage false startTime).start = .fin startTime ∧
    (r.initialiseLine reg stage false startTime).stage = stage ∧
    (r.initialiseLine reg stage false startTime).gap = r.gap ∧
    (r.initialiseLine reg stage false startTime).interval = pealSpeedToBlowInterval r.pealSpeed stage := by
  simp only [Reg.initialiseLine, Bool.not_false, if_true,
    addDataPoint_first (r.resetForTouch stage) reg 0 0 startTime (Num.ofNat 1) rfl hmin]
  exact ⟨trivial, rfl, rfl, rfl⟩

theorem lookToDuration_is_3 : (Num.ofQ lookToDuration : K) = 3 := by
  simp [num_ofQ, lookToDuration]

theorem tickSleep_is_10ms : (Num.ofQ tickSleep : K) = 1 / 100 := by
  simp [num_ofQ, tickSleep]

/-- A wait that begins before the bell's time on the line ends exactly on it. -/
theorem wait_hits_line (r : Reg K) (s now : K) (row place : Nat) (uc : Bool)
    (hs : r.start = .fin s) (h0 : s ≠ 0) (hlt : now < indexToRealTime (r.line s) row place) :
    r.waitPlan now row place uc = .sleep (indexToRealTime (r.line s) row place - now) :=
  waitPlan_before r s now row place uc hs h0 hlt

theorem next_place (s : Line K) (r p : Nat) : indexToBlowTime s r (p + 1) = indexToBlowTime s r p + 1 := by
  rw [blow_index, blow_index, ← Nat.add_assoc, Nat.cast_succ, add_right_comm]

theorem succ_div_two (r : Nat) : (r + 1) / 2 = r / 2 + r % 2 := by
  conv_lhs => rw [← Nat.div_add_mod r 2]
  rw [Nat.add_assoc, Nat.mul_add_div Nat.two_pos]
  rcases Nat.mod_two_eq_zero_or_one r with h | h <;> rw [h]

theorem next_lead (s : Line K) (r : Nat) (hN : 0 < s.stage) :
    indexToBlowTime s (r + 1) 0 = indexToBlowTime s r (s.stage - 1) + 1 + ((r % 2 : Nat) : K) * s.gap := by
  rw [← next_place, Nat.sub_add_cancel hN]
  simp only [blow_index, succ_div_two]
  push_cast; ring

/-- With an interval longer than the loop's 10 ms, that sleep is over before a bell at least one blow later on the line
is due. -/
theorem next_turn_later (l : Line K) (hI : (Num.ofQ tickSleep : K) < l.interval) {r p r' p' : Nat}
    (h : indexToBlowTime l r p + 1 ≤ indexToBlowTime l r' p') :
    indexToRealTime l r p + Num.ofQ tickSleep < indexToRealTime l r' p' := by
  calc l.start + l.interval * indexToBlowTime l r p + Num.ofQ tickSleep
      < l.start + l.interval * indexToBlowTime l r p + l.interval := add_lt_add_right hI _
    _ = l.start + l.interval * (indexToBlowTime l r p + 1) := by ring
    _ ≤ _ := add_le_add_right (mul_le_mul_of_nonneg_left h (tickSleep_pos.trans hI).le) _

/-- The blow index strictly advances by at least one along the turns. -/
def Advancing (r : Reg K) : List (Nat × Nat) → Prop
  | [] => True
  | [_] => True
  | a :: b :: rest => r.blowTime a.1 a.2 + 1 ≤ r.blowTime b.1 b.2 ∧ Advancing r (b :: rest)

/-- **No accumulation, any number of rows**: if the first turn starts before its time and the 10 ms
tick sleep is shorter than the blow interval, every strike of the solo loop is exactly at its time on
the line `start + I·index`. -/
theorem solo_closed_form (r : Reg K) (s : K) (hs : r.start = .fin s) (h0 : s ≠ 0)
    (hI : (Num.ofQ tickSleep : K) < r.interval) :
    ∀ (turns : List (Nat × Nat)) (now : K), Advancing r turns →
      (∀ a ∈ turns.head?, now < indexToRealTime (r.line s) a.1 a.2) →
      soloTimes r now turns = turns.map (fun a => indexToRealTime (r.line s) a.1 a.2) := by
  intro turns
  induction turns with
  | nil => intro _ _ _; rfl
  | cons a rest ih =>
    intro now hadv hnow
    obtain ⟨row, place⟩ := a
    simp only [soloTimes, wait_hits_line r s now row place false hs h0 (hnow (row, place) rfl), List.map_cons,
      add_sub_cancel]
    congr 1
    cases rest with
    | nil => rfl
    | cons b rest' =>
      refine ih _ hadv.2 fun c hc => ?_
      cases hc
      exact next_turn_later (r.line s) hI hadv.1

/-- Consecutive turns in ringing order advance by at least one blow: within a row by exactly one … -/
theorem step_in_row (r : Reg K) (row place : Nat) : r.blowTime row place + 1 = r.blowTime row (place + 1) :=
  (next_place _ row place).symm

/-- … and from the last place of a row to the lead of the next by at least one when the gap is not negative. -/
theorem step_to_next_row (r : Reg K) (hg : 0 ≤ r.gap) (row : Nat) (hN : 0 < r.stage) :
    r.blowTime row (r.stage - 1) + 1 ≤ r.blowTime (row + 1) 0 := by
  unfold Reg.blowTime
  rw [next_lead _ row hN]
  exact le_add_of_nonneg_right (mul_nonneg (Nat.cast_nonneg _) hg)

theorem whole_pulls (s : Line K) (k : Nat) :
    indexToRealTime s (2 * k) 0 - indexToRealTime s 0 0 = s.interval * (k * (2 * s.stage + s.gap)) := by
  simp only [real_time, Nat.mul_div_cancel_left k Nat.two_pos, Nat.zero_div]
  push_cast; ring

/-- **Exactly the requested time**: with the default gap 1, 5040 rows (2520 whole pulls) span exactly
the configured number of minutes, on every tower size. -/
theorem peal_exact (m : K) (N : Nat) (start : K) :
    let s : Line K := { stage := N, gap := 1, start, interval := pealSpeedToBlowInterval m N }
    indexToRealTime s 5040 0 - indexToRealTime s 0 0 = m * 60 := by
  intro s
  refine (whole_pulls s 2520).trans ?_
  simp only [s, interval_formula]
  push_cast
  rw [div_div, div_mul_cancel₀ _ (by positivity)]

theorem lead_gap (s : Line K) (r : Nat) (hN : 0 < s.stage) :
    indexToRealTime s (r + 1) 0 - indexToRealTime s r (s.stage - 1) =
      s.interval * (1 + ((r % 2 : Nat) : K) * s.gap) := by
  simp only [indexToRealTime, blowTimeToRealTime, next_lead s r hN]
  ring

/-- Each handstroke lead is opened by exactly `g` extra intervals: from the last place of a backstroke
row to the lead of the next row is `(1 + g)` intervals, from a handstroke row it is one. -/
theorem handstroke_gap (s : Line K) (k : Nat) (hN : 0 < s.stage) :
    indexToRealTime s (2 * k + 2) 0 - indexToRealTime s (2 * k + 1) (s.stage - 1) = s.interval * (1 + s.gap) ∧
    indexToRealTime s (2 * k + 1) 0 - indexToRealTime s (2 * k) (s.stage - 1) = s.interval := by
  constructor
  · simpa only [Nat.mul_add_mod, Nat.one_mod, Nat.cast_one, one_mul] using lead_gap s (2 * k + 1) hN
  · simpa only [Nat.mul_mod_right, Nat.cast_zero, zero_mul, add_zero, mul_one] using lead_gap s (2 * k) hN

/-! Non-vacuity: 2h58 on six bells. -/
example : pealSpeedToBlowInterval (178 : ℚ) 6 = 89 / 273 := by
  rw [interval_formula]; norm_num

/-! ### The same for the real main loop (`World.run`), not only for its tick-loop abstraction `soloTimes` -/

/-- **One whole turn of the real main loop, alone in the tower.**  From the loop head (`ringCheck`)
with the next bell Wheatley's own, the line anchored, the clock before the bell's time and no message
due: three steps of `World.run` later the main thread is back at the loop head; the strike, the row's
calls and whatever the row boundary emits are logged at exactly `line time + hold-up`; the clock reads
that time plus the loop's 10 ms; the Bot is the one `tick()` leaves; line and hold-up are untouched. -/
theorem world_solo_turn (wt : K → K) (endTime : K) (fuel : Nat) (w : World K) (s : K) (bell : Nat)
    (hpc : w.pc = .ringCheck) (hr : w.bot.isRinging = true) (hstub : w.rh.stub = none)
    (hs : w.rh.reg.start = .fin s) (h0 : s ≠ 0)
    (hb : w.bot.tickBegin = some (bell, false))
    (hlt : w.now - w.delay < indexToRealTime (w.rh.reg.line s) w.bot.rowNumber w.bot.place)
    (hend : indexToRealTime (w.rh.reg.line s) w.bot.rowNumber w.bot.place + w.delay + Num.ofQ tickSleep ≤ endTime)
    (hnc : (w.bot.tickEnd bell false).2.findSome? isCrash = none) :
    ∃ w' : World K,
      World.run wt endTime (fuel + 3) w [] = World.run wt endTime fuel w' [] ∧
      w'.pc = .ringCheck ∧
      w'.now = indexToRealTime (w.rh.reg.line s) w.bot.rowNumber w.bot.place + w.delay + Num.ofQ tickSleep ∧
      w'.bot = (w.bot.tickEnd bell false).1 ∧
      w'.rh.reg.start = .fin s ∧ w'.rh.reg.interval = w.rh.reg.interval ∧ w'.rh.reg.stage = w.rh.reg.stage ∧
      w'.rh.reg.gap = w.rh.reg.gap ∧ w'.delay = w.delay ∧ w'.rh.stub = none ∧
      w'.obs = ((w.bot.tickEnd bell false).2.reverse.map
          (fun o => ({ t := indexToRealTime (w.rh.reg.line s) w.bot.rowNumber w.bot.place + w.delay, out := o } : Obs K)))
        ++ w.obs := by
  obtain ⟨w', hrun, hpc', ha', hnow, hbot, hobs⟩ :=
    solo_turn wt endTime fuel w (w.rh.reg.line s) w.delay bell hpc hr ⟨hstub, hs, rfl, rfl⟩ h0 hb hlt hend hnc
  exact ⟨w', hrun, hpc', hnow, hbot, ha'.start, congrArg Line.interval ha'.line, congrArg Line.stage ha'.line,
    congrArg Line.gap ha'.line, ha'.delay, ha'.stub, hobs⟩

/-- The induction behind `world_solo_rows`: the clock has to be before the bell's time only if there is a turn to ring. -/
theorem solo_rows (wt : K → K) (endTime : K) (l : Line K) (D : K)
    (hI : (Num.ofQ tickSleep : K) < l.interval) (h0 : l.start ≠ 0) :
    ∀ (n fuel : Nat) (w : World K), w.pc = .ringCheck → Anchored l D w.rh →
      (0 < n → w.now - D < indexToRealTime l w.bot.rowNumber w.bot.place) → AloneFor l D endTime n w.bot →
      ∃ w' : World K, World.run wt endTime (fuel + 3 * n) w [] = World.run wt endTime fuel w' [] ∧
        w'.obs = soloLog l D n w.bot ++ w.obs ∧ w'.pc = .ringCheck ∧ Anchored l D w'.rh := by
  intro n
  induction n with
  | zero => intro fuel w hpc ha _ _; exact ⟨w, rfl, rfl, hpc, ha⟩
  | succ n ih =>
    intro fuel w hpc ha hlt ⟨hr, hend, bell, hb, hnc, hadv, hrest⟩
    obtain ⟨w1, hrun, hpc1, ha1, hnow, hbot, hobs⟩ :=
      solo_turn wt endTime (fuel + 3 * n) w l D bell hpc hr ha h0 hb (hlt n.succ_pos) hend hnc
    have hlt1 : 0 < n → w1.now - D < indexToRealTime l w1.bot.rowNumber w1.bot.place := fun hn => by
      rw [hnow, hbot, add_right_comm, add_sub_cancel_right]
      exact next_turn_later l hI (hadv.resolve_left hn.ne')
    obtain ⟨w2, hrun2, hobs2, h2⟩ := ih fuel w1 hpc1 ha1 hlt1 (hbot ▸ hrest)
    refine ⟨w2, hrun.trans hrun2, ?_, h2⟩
    rw [hobs2, hobs, hbot]
    simp only [soloLog, hb, List.append_assoc]

/-- **Any number of turns of the real main loop, alone in the tower**: `3·n` steps of `World.run`
ring `n` turns, and every output of every turn — the strikes in particular — is logged at exactly the
turn's time on the line `start + I·(r·N + p + ⌊r/2⌋·g)` plus the hold-up accumulated before.  No error
accumulates: the clock after each turn is that time plus the loop's 10 ms, still before the next bell's
time because the interval is longer than 10 ms. -/
theorem world_solo_rows (wt : K → K) (endTime : K) (l : Line K) (D : K)
    (hI : (Num.ofQ tickSleep : K) < l.interval) (h0 : l.start ≠ 0) :
    ∀ (n fuel : Nat) (w : World K),
      w.pc = .ringCheck → w.rh.stub = none → w.rh.reg.start = .fin l.start → w.rh.reg.line l.start = l →
      w.delay = D → w.now - D < indexToRealTime l w.bot.rowNumber w.bot.place →
      AloneFor l D endTime n w.bot →
      ∃ w' : World K,
        World.run wt endTime (fuel + 3 * n) w [] = World.run wt endTime fuel w' [] ∧
        w'.obs = soloLog l D n w.bot ++ w.obs ∧ w'.pc = .ringCheck ∧
        w'.rh.reg.line l.start = l ∧ w'.delay = D := by
  intro n fuel w hpc hstub hs hl hd hlt hal
  obtain ⟨w', hrun, hobs, hpc', ha'⟩ :=
    solo_rows wt endTime l D hI h0 n fuel w hpc ⟨hstub, hs, hl, hd⟩ (fun _ => hlt) hal
  exact ⟨w', hrun, hobs, hpc', ha'.line, ha'.delay⟩

/-! Non-vacuity: plain hunt on four, all bells Wheatley's, just after Look To; line anchored at 103 s
with four blows a second.  The first two turns (bells 1 and 2 of the opening rounds) satisfy `AloneFor`. -/
def soloBot : Bot :=
  (((Bot.init ((mkPlainHunt 4 none).getD mkPlaceholder) false false true none none).onMsg
      (.globalState [true, true, true, true])).1.lookTo).1

example : AloneFor ({ stage := 4, gap := 1, start := 103, interval := 1 / 4 } : Line ℚ) 0 1000 2 soloBot := by
  have e0 : soloBot.rowNumber = 0 := by decide
  have e1 : soloBot.place = 0 := by decide
  have e2 : (soloBot.tickEnd 1 false).1.rowNumber = 0 := by decide
  have e3 : (soloBot.tickEnd 1 false).1.place = 1 := by decide
  refine ⟨by decide, ?_, 1, by decide, by decide, Or.inr ?_, by decide, ?_, 2, by decide, by decide, Or.inl rfl, trivial⟩
  · rw [e0, e1, real_time, tickSleep_is_10ms]; norm_num
  · rw [e0, e1, e2, e3, blow_index, blow_index]; norm_num
  · rw [e2, e3, real_time, tickSleep_is_10ms]; norm_num

/-- The rhythm is built with the minutes that the last `-S` given (else the default) parses to, and with the last
`-G` given (else the default) as handstroke gap. -/
theorem cli_speed_and_gap (c : Parse.Chars) (os : List Cli.Opt) (u : Option (List Char × List Char)) (cfg : Cli.Cfg)
    (h : Cli.consoleMain c os u = .built cfg) :
    Parse.pealSpeed c ((Cli.speedsGiven os).getLast?.getD Generated.cliPealSpeed.toList) = .ok cfg.pealSpeed ∧
    cfg.gap = (Cli.gapsGiven os).getLast?.getD Generated.cliGapBits :=
  ⟨(Cli.main_builds c os u cfg h).pealSpeed, (Cli.main_builds c os u cfg h).gap⟩

end Wheatley.C11
