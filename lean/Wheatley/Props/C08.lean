/-
C08 — Wheatley strikes exactly its own bells: once per row, in order, right stroke.

`tickBegin` samples the bell of the current place and whether a user controls it *before* the rhythm
wait; `tickEnd` runs after the wait with those sampled values (the reading "at the moment of their
turn" = the instant the turn begins, DESIGN.md section 5).
-/
import Wheatley.Lemmas.Cli
import Wheatley.Lemmas.Handlers
namespace Wheatley.C08

/-- **Whose bell**: the ownership test is exactly "unassigned and no name configured, or assigned to
a user whose name is the configured one". -/
theorem ownership_spec (t : Tower) (bell : Nat) (name : Option String) :
    t.isAssignedTo bell name = true ↔
      ((alGet t.assigned bell = none ∧ name = none) ∨
       (∃ id, alGet t.assigned bell = some id ∧ alGet t.userNames id = name)) := by
  unfold Tower.isAssignedTo
  cases alGet t.assigned bell <;> simp

/-- The turn begins by reading the bell at the current place of the current row and its owner. -/
theorem turn_sample (b : Bot) (bell : Nat) (uc : Bool) (h : b.tickBegin = some (bell, uc)) :
    b.row[b.place]? = some bell ∧ uc = !b.botAssigned bell := by
  unfold Bot.tickBegin at h
  split at h
  · rename_i x hx; injection h with h; injection h with h1 h2; subst h1; exact ⟨hx, h2.symm⟩
  · cases h

/-- **Only its own bells, on the right stroke**: every strike emitted at the end of a turn is of the
sampled bell, that bell was not user-controlled when the turn began, and the stroke sent equals both
the tower view's current stroke of the bell and the stroke of the row being rung — so a server whose
state the view reflects accepts it. -/
theorem strike_law (b : Bot) (bell : Nat) (uc : Bool) (x : Nat) (s : Bool)
    (h : Out.ring x s ∈ (b.tickEnd bell uc).2) :
    x = bell ∧ uc = false ∧ b.tower.getStroke bell = some s ∧ s = b.hand := by
  rcases mem_tickEnd h with h | h | h
  · obtain ⟨s', e, h1, h2, h3⟩ := mem_strike h
    injection e with e1 e2
    subst e1 e2
    exact ⟨rfl, h1, h2, h3⟩
  · obtain ⟨_, e, _⟩ := mem_leadCalls h; cases e
  · cases startNextRow_no_ring _ false _ h

/-- Together with `turn_sample`: the struck bell was Wheatley's (per the tower view) when its turn
began. -/
theorem strike_owner (b b' : Bot) (bell : Nat) (uc : Bool) (x : Nat) (s : Bool)
    (h0 : b.tickBegin = some (bell, uc)) (h : Out.ring x s ∈ (b'.tickEnd bell uc).2) :
    x = bell ∧ b.botAssigned bell = true ∧ b.row[b.place]? = some bell := by
  obtain ⟨h1, h2, _, _⟩ := strike_law b' bell uc x s h
  obtain ⟨h3, h4⟩ := turn_sample b bell uc h0
  refine ⟨h1, ?_, h3⟩
  rw [h2] at h4
  cases hb : b.botAssigned bell <;> simp [hb] at h4 ⊢

/-- **Once**: a turn emits at most one strike. -/
theorem at_most_one_strike (b : Bot) (bell : Nat) (uc : Bool) :
    ((b.tickEnd bell uc).2.filter Out.isRing).length ≤ 1 := by
  have h1 : (b.strike bell uc).length ≤ 1 := by
    unfold Bot.strike Bot.ringBell
    cases uc
    · cases b.tower.getStroke bell with
      | none => exact Nat.zero_le _
      | some s => simp only [Bool.false_eq_true, if_false]; split <;> simp
    · exact Nat.zero_le _
  have h2 : b.leadCalls.filter Out.isRing = [] :=
    List.filter_eq_nil_iff.mpr (fun o ho => by obtain ⟨_, rfl, _⟩ := mem_leadCalls ho; simp [Out.isRing])
  have h3 : (({ b with place := b.place + 1 } : Bot).startNextRow false).2.filter Out.isRing = [] :=
    List.filter_eq_nil_iff.mpr (fun o ho => by simp [startNextRow_no_ring _ false o ho])
  rcases tickEnd_cases b bell uc with ⟨_, e⟩ | ⟨_, e⟩ <;> rw [e]
  · rw [List.filter_append, h2, List.append_nil]
    exact Nat.le_trans (List.length_filter_le _ _) h1
  · rw [List.filter_append, List.filter_append, h2, h3, List.append_nil, List.append_nil]
    exact Nat.le_trans (List.length_filter_le _ _) h1

/-- **In row order**: each turn moves on by exactly one place, or begins the next row at place 0 —
so a (row, place) gets one turn and hence (`at_most_one_strike`) at most one strike. -/
theorem place_advances (b : Bot) (bell : Nat) (uc : Bool) :
    ((b.tickEnd bell uc).1.place = b.place + 1 ∧ (b.tickEnd bell uc).1.rowNumber = b.rowNumber) ∨
    ((b.tickEnd bell uc).1.place = 0) := by
  rcases tickEnd_cases b bell uc with ⟨_, e⟩ | ⟨_, e⟩ <;> rw [e]
  · exact Or.inl ⟨rfl, rfl⟩
  · obtain ⟨c, g, cs, r, e', -⟩ := startNextRow_frame ({ b with place := b.place + 1 } : Bot) false
    exact Or.inr (by rw [e'])

/-! Non-vacuity: with bell 3 assigned to "Alice" and no --name, bell 3 is not Wheatley's and bell 2 is. -/
example :
    let t : Tower := { bellState := [true, true, true, true], assigned := [(3, 11)], userNames := [(11, "Alice")] }
    t.isAssignedTo 3 none = false ∧ t.isAssignedTo 2 none = true ∧ t.isAssignedTo 3 (some "Alice") = true := by
  decide

/-- The name whose bells Wheatley rings is the last `--name` given; without one, none (the unassigned bells). -/
theorem cli_name (c : Parse.Chars) (os : List Cli.Opt) (u : Option (List Char × List Char)) (cfg : Cli.Cfg)
    (h : Cli.consoleMain c os u = .built cfg) : cfg.name = (Cli.namesGiven os).getLast? :=
  (Cli.main_builds c os u cfg h).name

/-- **Only the main thread strikes.**  Whatever arrives from the server - any message, in any state, also the
second half of a Look To handler that was asleep - the handler that runs on the socket thread emits no
`c_bell_rung`, and it does not move the main thread.  So every strike of Wheatley's is the strike of a turn
(`strike_law`, `at_most_one_strike`), however assignments change and ringers come and go meanwhile. -/
theorem only_the_main_thread_strikes {K : Type} [Num K] (wt : K → K) (w : World K) (e : Ev) :
    (World.deliver wt w e).pc = w.pc ∧ ringsOf (World.deliver wt w e).obs = ringsOf w.obs :=
  deliver_never_rings wt w e

/-- … and the same for a whole sleep of the main thread, however many messages fall due in it. -/
theorem no_strike_while_asleep {K : Type} [Num K] (wt : K → K) (endTime : K) (w : World K) (d : K)
    (events : List (K × Ev)) :
    (World.sleep wt endTime w d events).1.pc = w.pc ∧
    ringsOf (World.sleep wt endTime w d events).1.obs = ringsOf w.obs :=
  World.sleep_keeps_pending (J := fun w' _ => w'.pc = w.pc ∧ ringsOf w'.obs = ringsOf w.obs) (fun _ _ _ h => h)
    (fun w' ev _ h => ⟨(deliver_never_rings wt w' ev.2).1.trans h.1, (deliver_never_rings wt w' ev.2).2.trans h.2⟩)
    endTime w d events ⟨rfl, rfl⟩

end Wheatley.C08
