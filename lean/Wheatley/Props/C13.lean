/-
C13 — inertia 1 ignores the band; a gross blunder never drags the rhythm.
-/
import Mathlib.Analysis.Complex.ExponentialBounds
import Wheatley.Props.C12
import Wheatley.Model.World
import Wheatley.Lemmas.Cli
import Wheatley.Lemmas.Handlers
import Wheatley.Props.C11
namespace Wheatley.C13
open Generated

variable {K : Type} [Field K] [LinearOrder K] [IsStrictOrderedRing K]

/-- **Inertia 1**: a data point never changes start or interval (the early return), whatever its time
and weight — so after the first row (row ≥ 1 uses the preferred inertia) the line is
independent of everything the humans do. -/
theorem inertia1_line_invariant (r : Reg K) (reg : List (K × K × K) → K × K) (row place : Nat) (t w : K)
    (hrow : 0 < row) (hi : r.preferredInertia = 1) :
    (r.addDataPoint reg row place t w).start = r.start ∧
    (r.addDataPoint reg row place t w).interval = r.interval := by
  rw [addDataPoint_unfitted r reg row place t w
    (.inl (by rw [if_pos hrow, hi]; exact decide_eq_true Nat.cast_one.symm))]
  exact ⟨rfl, rfl⟩

/-- … hence a whole human strike leaves the line alone too (it only consumes the expectation). -/
theorem inertia1_strike (r : Reg K) (wt : K → K) (reg : List (K × K × K) → K × K) (bell : Nat) (hand : Bool)
    (t : K) (row place : Nat) (hexp : r.lookupExpected bell hand = some (row, place)) (hrow : 0 < row)
    (hi : r.preferredInertia = 1) (hb : r.blowTime row place ≠ 0) :
    (r.onBellRing wt reg bell hand t).start = r.start ∧
    (r.onBellRing wt reg bell hand t).interval = r.interval := by
  obtain ⟨w, e⟩ := onBellRing_some r wt reg bell hand t row place hexp
  rw [e, if_neg fun h0 => hb ((of_decide_eq_true h0).trans Nat.cast_zero)]
  exact inertia1_line_invariant r reg row place t w hrow hi

theorem exp_neg9 : Real.exp (-9) < 1 / 1000 := by
  have h : (5 / 2 : ℝ) < Real.exp 1 := lt_trans (by norm_num) Real.exp_one_gt_d9
  have h9 : (1000 : ℝ) < Real.exp 9 := by
    rw [show (9 : ℝ) = (9 : ℕ) * 1 by norm_num, Real.exp_nat_mul]
    exact lt_trans (by norm_num) (pow_lt_pow_left₀ h (by norm_num) (by norm_num))
  rw [Real.exp_neg, ← one_div]
  exact one_div_lt_one_div_of_lt (by norm_num) h9

/-- A strike three or more places from its slot gets a weight below the rejection threshold. -/
theorem blunder_weight (d : ℝ) (h : 3 ≤ |d|) : Real.exp (-(d ^ 2)) < 1 / 1000 := by
  have h9 : (9 : ℝ) ≤ d ^ 2 := by
    rw [← sq_abs, show (9 : ℝ) = 3 ^ 2 by norm_num]
    exact pow_le_pow_left₀ (by norm_num) h 2
  calc Real.exp (-(d ^ 2)) ≤ Real.exp (-9) := Real.exp_le_exp.mpr (neg_le_neg h9)
    _ < 1 / 1000 := exp_neg9

/-- **The blunder is dropped at once**: a new point whose weight is not above the threshold leaves the
data set exactly as it was, provided the remembered points are all above it (they were kept) and the
memory is not over-full (it never is, `C12.memory_bounded`). -/
theorem blunder_dropped (r : Reg K) (row place : Nat) (t w : K)
    (hw : ¬ (Num.ofQ weightRejectionThreshold : K) < w)
    (hkept : ∀ d ∈ r.dataSet, (Num.ofQ weightRejectionThreshold : K) < d.2.2)
    (hlen : (r.dataSet.length : Int) < r.maxBells) :
    r.newDataSet row place t w = r.dataSet := by
  unfold Reg.newDataSet
  simp only []
  rw [List.filter_append, List.filter_eq_self.mpr (fun d hd => decide_eq_true (hkept d hd)),
    List.filter_cons_of_neg (by rwa [decide_eq_true_eq]), List.filter_nil, List.append_nil, if_neg (by omega)]

/-- **… and harmless once the rhythm is settled** (all remembered points on the current line): the line
after the blunder is the line before it — the same as if the strike had not happened. -/
theorem blunder_harmless (r : Reg K) (row place : Nat) (t w s : K) (hs : r.start = .fin s)
    (hw : ¬ (Num.ofQ weightRejectionThreshold : K) < w)
    (hkept : ∀ d ∈ r.dataSet, (Num.ofQ weightRejectionThreshold : K) < d.2.2)
    (hlen : (r.dataSet.length : Int) < r.maxBells)
    (hsettled : OnLine s r.interval r.dataSet) (hdet : det r.dataSet ≠ 0) :
    (r.addDataPoint regress row place t w).start = .fin s ∧
    (r.addDataPoint regress row place t w).interval = r.interval ∧
    (r.addDataPoint regress row place t w).dataSet = r.dataSet := by
  have hds := blunder_dropped r row place t w hw hkept hlen
  obtain ⟨h1, h2⟩ := C12.fixed_point r row place t w s hs (by rw [hds]; exact hsettled) (by rw [hds]; exact hdet)
  obtain ⟨_, _, _, _, _, -, e⟩ := addDataPoint_eq r regress row place t w
  exact ⟨h1, h2, by rw [e]; exact hds⟩

theorem threshold_value : (Num.ofQ weightRejectionThreshold : K) = 1 / 1000 := by
  rw [num_ofQ, weightRejectionThreshold, Nat.cast_one, Nat.cast_ofNat]

/-- A strike a whole row early lands on the other stroke: it is not expected there and changes nothing. -/
theorem unexpected_stroke_ignored (r : Reg K) (wt : K → K) (reg : List (K × K × K) → K × K) (bell : Nat)
    (hand : Bool) (t : K) (h : r.lookupExpected bell hand = none) :
    r.onBellRing wt reg bell hand t = r :=
  onBellRing_none r wt reg bell hand t h

/-- **Inertia 1 can be switched on at run time**: an `inertia` setting of 0 or 1 (the integers the
settings channel sends) becomes the rhythm's preferred inertia — in particular exactly 1 is accepted,
and from then on (`inertia1_line_invariant`) no strike moves the line. -/
theorem inertia_setting_applies {K : Type} [Num K] (w : World K) (wt : K → K) (ct : K) (n : Int)
    (hstub : w.rh.stub = none) (h0 : 0 ≤ n) (h1 : n ≤ 1) :
    (World.applyOut wt ct w (.rSetting "inertia" (.int n))).rh.reg.preferredInertia = Num.ofNat n.toNat := by
  unfold World.applyOut
  simp only [hstub]
  rw [if_neg (by decide), if_pos (by decide), if_pos ⟨h0, h1⟩]

/-- **An expectation is used once**: the strike that matches it removes it, so a later strike of the same
bell on the same stroke that arrives before the next expectation has been set (rung more than a row
ahead) is "unexpected" and (`unexpected_stroke_ignored`) changes nothing. -/
theorem expectation_used_once (r : Reg K) (wt : K → K) (reg : List (K × K × K) → K × K) (bell : Nat)
    (hand : Bool) (t : K) :
    (r.onBellRing wt reg bell hand t).lookupExpected bell hand = none := by
  cases hq : r.lookupExpected bell hand with
  | none => rw [onBellRing_none r wt reg bell hand t hq]; exact hq
  | some p =>
    obtain ⟨w, e⟩ := onBellRing_some r wt reg bell hand t p.1 p.2 hq
    rw [e, Reg.lookupExpected, List.find?_eq_none.mpr]
    intro x hx
    simpa using (List.mem_filter.mp hx).2

section System

structure RegDeaf (r : Reg K) (s : Time K) (i : K) : Prop where
  inertia : r.preferredInertia = 1
  start : r.start = s
  interval : r.interval = i
  stage : 0 < r.stage
  gap : 0 ≤ r.gap
  rows : ∀ p ∈ r.expected, 0 < p.2.1

/-- The world of a touch under way whose rhythm is deaf: the real rhythm (no stub), the main thread past
`wait_loaded`, no Look To handler asleep. -/
structure Deaf (w : World K) (s : Time K) (i : K) : Prop where
  stub : w.rh.stub = none
  reg : RegDeaf w.rh.reg s i
  notSpawn : ∀ it t, w.pc ≠ .waitLoaded it (some t)
  awake : w.suspended = none

/-- The events of a touch under way: anything but a Look To (which starts a new line), a setting (which may bend
it or change the inertia) and the waking of a Look To handler. -/
def Band : Ev → Prop
  | .msg (.call c) => c ≠ Generated.call_LOOK_TO
  | .msg (.setting _) => False
  | .resume => False
  | _ => True

/-- Outputs that cannot move the line of a deaf rhythm. -/
def quietOut : Out → Bool
  | .rInit _ _ _ => false
  | .rSetting _ _ => false
  | .rExpect _ row _ _ => decide (0 < row)
  | _ => true

theorem blowTime_ne_zero (r : Reg K) (row place : Nat) (hrow : 0 < row) (hst : 0 < r.stage) (hg : 0 ≤ r.gap) :
    r.blowTime row place ≠ 0 := by
  rw [Reg.blowTime, C11.blow_index]
  exact ne_of_gt (add_pos_of_pos_of_nonneg (Nat.cast_pos.mpr (Nat.add_pos_left (Nat.mul_pos hrow hst) place))
    (mul_nonneg (Nat.cast_nonneg _) hg))

theorem onBellRing_deaf (r : Reg K) (wt : K → K) (reg : List (K × K × K) → K × K) (bell : Nat) (hand : Bool) (t : K)
    (s : Time K) (i : K) (h : RegDeaf r s i) : RegDeaf (r.onBellRing wt reg bell hand t) s i := by
  cases hq : r.lookupExpected bell hand with
  | none => rw [onBellRing_none r wt reg bell hand t hq]; exact h
  | some p =>
    -- past the first row the strike is no anchor and the inertia is the preferred one, 1: only its data point
    -- is kept
    have hrow : 0 < p.1 := h.rows _ (lookupExpected_mem hq)
    obtain ⟨w, e⟩ := onBellRing_some r wt reg bell hand t p.1 p.2 hq
    have hne := blowTime_ne_zero r p.1 p.2 hrow h.stage h.gap
    rw [e, if_neg fun h0 => hne ((of_decide_eq_true h0).trans Nat.cast_zero),
      addDataPoint_unfitted _ reg p.1 p.2 t w
        (.inl (by rw [if_pos hrow, h.inertia]; exact decide_eq_true Nat.cast_one.symm))]
    exact ⟨h.inertia, h.start, h.interval, h.stage, h.gap, fun q hq => h.rows q (List.mem_filter.mp hq).1⟩

theorem told_deaf {wt : K → K} {r r' : Reg K} {o : Out} {s : Time K} {i : K} (ht : Reg.Told wt r o r')
    (ho : quietOut o = true) (h : RegDeaf r s i) : RegDeaf r' s i := by
  cases ht with
  | skip => exact h
  | flag => exact ⟨h.inertia, h.start, h.interval, h.stage, h.gap, h.rows⟩
  | init => cases ho
  | expect bell row place hand =>
    refine ⟨h.inertia, h.start, h.interval, h.stage, h.gap, fun p hp => ?_⟩
    simp only [Reg.expect, List.mem_append, List.mem_filter, List.mem_singleton] at hp
    rcases hp with hp | rfl
    · exact h.rows p hp.1
    · simpa [quietOut] using ho
  | ring g bell hand t => exact onBellRing_deaf r wt g bell hand t s i h
  | speed => cases ho
  | inertia => cases ho

def RhDeaf (s : Time K) (i : K) (rh : Rh K) : Prop := rh.stub = none ∧ RegDeaf rh.reg s i

theorem tickEnd_quiet (b : Bot) (bell : Nat) (uc : Bool) : ∀ o ∈ (b.tickEnd bell uc).2, quietOut o = true := by
  intro o ho
  rcases tickEnd_outs b bell uc o ho with ⟨_, rfl⟩ | ⟨_, rfl, _⟩ | ⟨_, rfl⟩ | ⟨_, _, _, rfl⟩
  · rfl
  · rfl
  · rfl
  · exact decide_eq_true (Nat.succ_pos b.rowNumber)  -- the row a boundary begins is not the first

theorem mainStep_deaf (wt : K → K) (w : World K) (s : Time K) (i : K) (h : Deaf w s i) : Deaf (w.mainStep wt).1 s i := by
  obtain ⟨p, hp, hst⟩ := mainStep_does wt w
  have hns : ¬ w.Spawned := fun ⟨it, t, hpc⟩ => h.notSpawn it t hpc
  have hrh := hst.rh (RhDeaf s i)
    -- the return flag lowered
    (fun rh hp => ⟨hp.1, hp.2.inertia, hp.2.start, hp.2.interval, hp.2.stage, hp.2.gap, hp.2.rows⟩)
    -- the wrapper's bookkeeping
    (fun _ _ hp => hp)
    -- a telling
    (fun rh o reg wait ho h' ht _ => by
      refine ⟨h'.1, told_deaf ht ?_ h'.2⟩
      cases hp with
      | status outs hs => rcases hs o ho with ⟨_, rfl⟩ | ⟨_, rfl⟩ <;> rfl
      | lookTo hsp => exact absurd hsp hns
      | tick bell uc => exact tickEnd_quiet w.bot bell uc o ho)
    ⟨h.stub, h.reg⟩
  exact ⟨hrh.1, hrh.2, fun it t hpc => hns (hst.spawned ⟨it, t, hpc⟩), hst.suspended.trans h.awake⟩

theorem deliver_deaf (wt : K → K) (w : World K) (e : Ev) (s : Time K) (i : K) (hB : Band e) (h : Deaf w s i) :
    Deaf (World.deliver wt w e) s i := by
  cases e with
  | resume => exact hB.elim
  | msg m =>
    have hm : m ≠ .call Generated.call_LOOK_TO := by rintro rfl; exact hB rfl
    have hrh : RhDeaf s i (World.deliver wt w (.msg m)).rh := by
      refine deliver_msg_told wt w m hm ?_ ⟨h.stub, h.reg⟩
      rintro rh o reg wait ho hp ht -
      refine ⟨hp.1, told_deaf ht ?_ hp.2⟩
      -- a strike heard and the word to return are quiet outputs; a setting is no event of the class
      rcases ho with ⟨_, _, _, -, rfl⟩ | ⟨_, _, _, rfl, -⟩ | ⟨-, rfl⟩
      · rfl
      · exact hB.elim
      · rfl
    obtain ⟨hsus, hpc, -⟩ := (deliver_awake wt w (.msg m) h.awake).resolve_left fun h' => hm (Ev.msg.inj h'.1)
    exact ⟨hrh.1, hrh.2, fun it t => hpc ▸ h.notSpawn it t, hsus⟩

/-- **With inertia 1 the band cannot move Wheatley's line.**  Take a touch under way whose rhythm has inertia 1 and
has no expectation left from the first row.  Then in every state of every run -
whatever the humans strike and whenever (early, late, rows ahead, bells that are not theirs), whoever takes or
drops a rope, comes or goes, whatever is called (Go, Bob, Single, That's all, Rounds, Stand), selected or stopped,
for as many steps as you like - the line Wheatley rings to is the line it was: same start, same interval.  Only a
Look To (a new touch) or a setting (a new speed, another inertia) can change it; those are the events excluded. -/
theorem line_never_moves (wt : K → K) (endTime : K) (fuel : Nat) (w : World K) (events : List (K × Ev))
    (s : Time K) (i : K) (hs : ∀ ev ∈ events, Band ev.2) (h : Deaf w s i) :
    (World.run wt endTime fuel w events).1.rh.reg.start = s ∧
    (World.run wt endTime fuel w events).1.rh.reg.interval = i :=
  let h' := WorldInvariant.run (I := fun w' => Deaf w' s i)
    ⟨fun _ _ h => ⟨h.stub, h.reg, h.notSpawn, h.awake⟩, fun w' h' => mainStep_deaf wt w' s i h',
      fun w' e he h' => deliver_deaf wt w' e s i he h'⟩ endTime fuel w events hs h
  ⟨h'.reg.start, h'.reg.interval⟩

/-- Non-vacuity: a rhythm in its second row on six bells, inertia 1, waiting for bell 2 - `Deaf`; a strike, an
assignment, a Bob and Stop Touch are events of the class. -/
example : ∃ w : World ℚ, Deaf w (.fin 3) (1 / 4) ∧
    (∀ e ∈ [Ev.msg (.bellRung [true, false, true, true, true, true] 2), .msg (.assign 3 11), .msg (.call "Bob"),
            .msg .stopTouch], Band e) := by
  refine ⟨{ World.init (0 : ℚ) (Bot.init (Gen.init .placeholder none []) false false true none none)
              { reg := { Reg.init (1 : ℚ) 180 1 4 15 0 with stage := 6, start := .fin 3, interval := 1 / 4,
                                                             expected := [((2, true), (2, 1))] },
                wait := none, stub := none } [] none with pc := .ringCheck }, ?_, ?_⟩
  · refine ⟨rfl, ⟨rfl, rfl, rfl, by decide, by decide, fun p hp => ?_⟩, (fun _ _ e => by cases e), rfl⟩
    cases List.mem_singleton.mp hp
    decide
  · intro e he
    simp only [List.mem_cons, List.mem_nil_iff, or_false] at he
    rcases he with rfl | rfl | rfl | rfl <;> simp [Band, Generated.call_LOOK_TO]

end System

/-- The inertia is the last `-I` given, else the default - an explicit 0 or 1 included. -/
theorem cli_inertia (c : Parse.Chars) (os : List Cli.Opt) (u : Option (List Char × List Char)) (cfg : Cli.Cfg)
    (h : Cli.consoleMain c os u = .built cfg) :
    cfg.inertia = (Cli.inertiasGiven os).getLast?.getD Generated.cliInertiaBits :=
  (Cli.main_builds c os u cfg h).inertia

end Wheatley.C13
