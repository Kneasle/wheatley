/-
C02 — method rows are exactly what the place notation defines.

`iter`, `applyAll`, `plainChange` and `plain_stays_plain` are C04's.
-/
import Wheatley.Props.C04
import Wheatley.Lemmas.RoundTripG
import Wheatley.Lemmas.Change
import Wheatley.Lemmas.MethodRows
import Wheatley.Model.World
namespace Wheatley.C02
open Wheatley.C04

/-- The `k` changes used from row `index` on, read cyclically from the start index. -/
def changesFrom (c : PNCfg) (index k : Nat) : List Places :=
  (List.range k).map (fun j => plainChange c (index + j))

theorem changesFrom_add (c : PNCfg) (i a b : Nat) :
    changesFrom c i (a + b) = changesFrom c i a ++ changesFrom c (i + a) b := by
  simp only [changesFrom, List.range_add, List.map_append, List.map_map, Function.comp_def, Nat.add_assoc]

theorem changesFrom_succ (c : PNCfg) (i k : Nat) :
    changesFrom c i (k + 1) = plainChange c i :: changesFrom c (i + 1) k := by
  rw [Nat.add_comm k 1, changesFrom_add]; rfl

/-- **Row `k` of a plain course is the start row transformed by the first `k` changes of the
notation, read cyclically from the configured start index** — for every notation, stage, start
index (negative included) and `k`. -/
theorem plain_rows (c : PNCfg) :
    ∀ (k : Nat) (g : Gen), g.callPN = [] → g.hasBob = false → g.hasSingle = false →
      (iter c k g).2 = applyAll c.stage g.row (changesFrom c g.index k) := by
  intro k
  induction k with
  | zero => intro g _ _ _; rfl
  | succ k ih =>
    intro g hq hb hs
    obtain ⟨h1, h2, h3, h4⟩ := plain_stays_plain c g hq hb hs
    rw [changesFrom_succ]
    simp only [iter, applyAll]
    rw [ih { (pnStep c g).1 with row := (pnStep c g).2, index := g.index + 1 } h2 h3 h4, h1]

/-- **`permute` is the change the notation denotes**, as one equation: for every stage, row and
parity-consistent place set, the loop of `permute` gives exactly the row described position by position by
`Spec.at` — named places, the implied lead and the covers keep their bell; the unnamed places exchange in
pairs from the first one up; an unnamed place left without a partner stays. -/
theorem permute_is_the_change (stage : Nat) (row : Row) (P : Places)
    (hc : Consistent stage P (firstPlace P)) : permute stage row P = Spec.apply stage row P := by
  rw [Spec.apply, show Spec.at stage P row = fun j => (permute stage row P)[j]? from
    funext fun j => (permute_at stage row P hc j).symm, ← permute_length stage row P, filterMap_range_getElem?]

/-- The rows obtained by applying the *denotations* of the given changes one after the other. -/
def specAll (stage : Nat) : Row → List Places → List Row
  | _, [] => []
  | r, p :: ps => Spec.apply stage r p :: specAll stage (Spec.apply stage r p) ps

theorem applyAll_eq_specAll (stage : Nat) (ps : List Places)
    (h : ∀ P ∈ ps, Consistent stage P (firstPlace P)) :
    ∀ r, applyAll stage r ps = specAll stage r ps := by
  induction ps with
  | nil => intro r; rfl
  | cons p ps ih =>
    intro r
    simp only [applyAll, specAll]
    rw [permute_is_the_change stage r p (h p List.mem_cons_self), ih (fun P hP => h P (List.mem_cons_of_mem p hP))]

/-- **Row `k` of a plain course, by denotation**: when the method's changes are parity-consistent, the rows
rung are the start row transformed by the *denotations* of the first `k` changes read cyclically from the
start index — no reference to the swap loop of `permute` remains in the statement. -/
theorem plain_rows_denoted (c : PNCfg) (hc : ∀ i, Consistent c.stage (plainChange c i) (firstPlace (plainChange c i)))
    (k : Nat) (g : Gen) (hq : g.callPN = []) (hb : g.hasBob = false) (hs : g.hasSingle = false) :
    (iter c k g).2 = specAll c.stage g.row (changesFrom c g.index k) := by
  rw [plain_rows c k g hq hb hs]
  refine applyAll_eq_specAll _ _ (fun P hP => ?_) _
  obtain ⟨j, _, rfl⟩ := List.mem_map.mp hP
  exact hc _

/-- Non-vacuity and a reading of the definition: `x` on four, `14` on six, `36` on six in a tower of eight (the
lowest named place is odd, so 1-2 swap), `25` on six with the lead implied. -/
example : Spec.apply 4 [1, 2, 3, 4] [] = [2, 1, 4, 3] ∧
    Spec.apply 6 [1, 2, 3, 4, 5, 6] [1, 4] = [1, 3, 2, 4, 6, 5] ∧
    Spec.apply 6 [1, 2, 3, 4, 5, 6, 7, 8] [3, 6] = [2, 1, 3, 5, 4, 6, 7, 8] ∧
    Spec.apply 6 [1, 2, 3, 4, 5, 6] [2, 5] = [1, 2, 4, 3, 5, 6] := by decide +kernel

/-- The lead index is `(k + start_index) mod lead_len`, also for negative start indices. -/
theorem leadIndex_spec (c : PNCfg) (k : Nat) (h : 0 < c.leadLen) :
    ((leadIndex c k : Nat) : Int) = ((k : Int) + c.startIndex) % (c.leadLen : Int) ∧
    leadIndex c k < c.leadLen := by
  unfold leadIndex
  have hpos : (0 : Int) < (c.leadLen : Int) := Int.natCast_pos.mpr h
  exact ⟨Int.toNat_of_nonneg (Int.emod_nonneg _ (Int.ne_of_gt hpos)),
    (Int.toNat_lt' h).mpr (Int.emod_lt_of_pos _ hpos)⟩

/-- For a place-notation generator the operation `next` is `pnStep` whatever the stroke, so
`plain_rows` is about the rows of any history of `next_row` calls. -/
theorem runOps_next_pn (c : PNCfg) :
    ∀ (hands : List Bool) (g : Gen), g.kind = .pn c →
      evRows (g.runOps (hands.map GenOp.next)).2 = (iter c hands.length g).2 := by
  intro hands
  induction hands with
  | nil => intro g _; rfl
  | cons h hs ih =>
    intro g hk
    have hn := Gen.next_pn hk h
    simp only [List.map_cons, Gen.runOps, Gen.apply, hn, List.length_cons, iter, evRows]
    rw [ih _ ((Gen.next_keeps hn).2.2.trans hk)]

theorem leadIndex_add (c : PNCfg) (h : 0 < c.leadLen) (i j : Nat) :
    leadIndex c (i + j) = (leadIndex c i + j) % c.leadLen := by
  apply Int.ofNat_inj.mp
  rw [(leadIndex_spec c (i + j) h).1, Int.natCast_emod, Int.natCast_add, Int.natCast_add, (leadIndex_spec c i h).1,
    Int.emod_add_emod, Int.add_right_comm]

theorem changesFrom_lead (c : PNCfg) (i : Nat) (h : leadIndex c i = 0) :
    changesFrom c i c.leadLen = c.methodPN := by
  apply List.ext_getElem
  · simp [changesFrom, PNCfg.leadLen]
  · intro j h1 h2
    have hj : j < c.leadLen := h2
    simp [changesFrom, plainChange, leadIndex_add c (Nat.zero_lt_of_lt hj), h, Nat.mod_eq_of_lt hj,
      List.getElem?_eq_getElem h2]

theorem changesFrom_leads (c : PNCfg) (hL : 0 < c.leadLen) (m : Nat) :
    ∀ i, leadIndex c i = 0 → changesFrom c i (m * c.leadLen) = (List.replicate m c.methodPN).flatten := by
  induction m with
  | zero => intro i _; simp [changesFrom]
  | succ m ih =>
    intro i h
    rw [Nat.succ_mul, Nat.add_comm, changesFrom_add, changesFrom_lead c i h,
      ih (i + c.leadLen) (by rw [leadIndex_add c hL, h, Nat.zero_add, Nat.mod_self]), List.replicate_succ,
      List.flatten_cons]

/-! ### Known facts of real methods, checked on the model for every supported stage
(finite tables evaluated by the kernel, `decide +kernel`: nothing is handed to compiled code). -/

/-- Number of rows until the start row first returns, ringing alternate strokes from handstroke (`k` rows have been
rung so far). -/
def firstReturn (g : Gen) : Nat → Nat → Bool → Option Nat
  | 0, _, _ => none
  | fuel + 1, k, hand =>
    match g.next hand with
    | .ok g' r _ => if r == g.startRow then some (k + 1) else firstReturn g' fuel (k + 1) (!hand)
    | _ => none

def courseLength (g? : Option Gen) (fuel : Nat) : Option Nat :=
  match g? with
  | some g => firstReturn g fuel 0 true
  | none => none

theorem firstReturn_pn (c : PNCfg) :
    ∀ (fuel : Nat) (g : Gen) (k : Nat) (hand : Bool), g.kind = .pn c →
      firstReturn g fuel k hand = ((iter c fuel g).2.findIdx? (· == g.startRow)).map (· + (k + 1)) := by
  intro fuel
  induction fuel with
  | zero => intro g k hand _; rfl
  | succ fuel ih =>
    intro g k hand hk
    have hi : (iter c (fuel + 1) g).2 = (pnStep c g).2 ::
        (iter c fuel { (pnStep c g).1 with row := (pnStep c g).2, index := g.index + 1 }).2 := rfl
    have hn := Gen.next_pn hk hand
    generalize ({ (pnStep c g).1 with row := (pnStep c g).2, index := g.index + 1 } : Gen) = g' at hi hn
    obtain ⟨-, hs, hk'⟩ := Gen.next_keeps hn
    simp only [firstReturn, hn, hi, List.findIdx?_cons]
    split
    · simp
    · rw [ih g' (k + 1) (!hand) (hk'.trans hk), hs, Option.map_map]
      congr 1; funext j; exact Nat.add_right_comm j (k + 1) 1

/-! A plain course is not rung row by row to find its length.  `permute` moves the bells without looking at them
(`permute_map`), so when the first lead takes the start row `r0` to `r0.map f`, lead `k` is the first lead with its
bells relabelled by `f` applied `k` times.  The start row is therefore back after `M` leads and not before when `M` is
the least number of applications of `f` that restores `r0` and no row inside the first lead is a lead head: `M`
applications of `f` change nothing, so a row `r` inside the first lead that `k < M` applications turn into `r0` is
`r0` after `M - k` applications, a lead head. -/

def power (f : Nat → Nat) : Nat → Nat → Nat
  | 0, b => b
  | k + 1, b => power f k (f b)

theorem power_add (f : Nat → Nat) (j : Nat) : ∀ k b, power f (j + k) b = power f j (power f k b)
  | 0, _ => rfl
  | k + 1, b => power_add f j k (f b)

def heads (f : Nat → Nat) : Nat → Row → List Row
  | 0, _ => []
  | m + 1, h => h :: heads f m (h.map f)

theorem heads_eq (f : Nat → Nat) : ∀ m h, heads f m h = (List.range m).map fun k => h.map (power f k) := by
  intro m
  induction m with
  | zero => intro h; rfl
  | succ m ih =>
    intro h
    rw [heads, ih, List.range_succ_eq_map, List.map_cons, List.map_map]
    exact congr (congrArg _ (List.map_id h).symm) (List.map_congr_left fun k _ => List.map_map)

theorem applyAll_length (stage : Nat) (ps : List Places) : ∀ r, (applyAll stage r ps).length = ps.length := by
  induction ps with
  | nil => intro r; rfl
  | cons p ps ih => intro r; simp only [applyAll, List.length_cons, ih]

theorem applyAll_perm (stage : Nat) (ps : List Places) : ∀ r, ∀ r' ∈ applyAll stage r ps, r'.Perm r := by
  induction ps with
  | nil => intro r r' h; cases h
  | cons p ps ih =>
    intro r r' h
    rcases List.mem_cons.mp h with rfl | h
    · exact permute_perm stage r p
    · exact (ih _ r' h).trans (permute_perm stage r p)

theorem applyAll_append (stage : Nat) (ps qs : List Places) :
    ∀ r, applyAll stage r (ps ++ qs) =
      applyAll stage r ps ++ applyAll stage ((applyAll stage r ps).getLastD r) qs := by
  induction ps with
  | nil => intro r; rfl
  | cons p ps ih => intro r; simp only [List.cons_append, applyAll, ih, List.getLastD_cons]

theorem applyAll_map (f : Nat → Nat) (stage : Nat) (ps : List Places) :
    ∀ r, applyAll stage (r.map f) ps = (applyAll stage r ps).map (List.map f) := by
  induction ps with
  | nil => intro r; rfl
  | cons p ps ih => intro r; simp only [applyAll, List.map_cons, permute_map, ih]

theorem course_returns {stage : Nat} {pn : List Places} {r0 : Row} {inner : List Row} {f : Nat → Nat} {M : Nat}
    (hl : applyAll stage r0 pn = inner ++ [r0.map f])
    (hM : r0.map (power f (M + 1)) = r0) (hmin : ∀ k < M, r0.map (power f (k + 1)) ≠ r0)
    (hin : ∀ r ∈ inner, ∀ k ≤ M, r ≠ r0.map (power f (k + 1))) (tail : List Places) :
    ((applyAll stage r0 ((List.replicate (M + 1) pn).flatten ++ tail)).findIdx? (· == r0)).map (· + 1) =
      some ((M + 1) * pn.length) := by
  suffices ∀ m k, k + m = M →
      ∃ n, (applyAll stage (r0.map (power f k)) ((List.replicate (m + 1) pn).flatten ++ tail)).findIdx? (· == r0) =
        some n ∧ n + 1 = (m + 1) * pn.length by
    obtain ⟨n, hn, hnl⟩ := this M 0 (Nat.zero_add M)
    rw [show r0.map (power f 0) = r0 from List.map_id r0] at hn
    rw [hn, ← hnl]; rfl
  have hid : ∀ b ∈ r0, power f (M + 1) b = b := List.map_inj_left.mp (hM.trans (List.map_id r0).symm)
  have hlen : pn.length = inner.length + 1 := by
    rw [← applyAll_length stage pn r0, hl, List.length_append]; rfl
  have hlead : ∀ k ≤ M, ∀ rest, (applyAll stage (r0.map (power f k)) (pn ++ rest)).findIdx? (· == r0) =
      if r0.map (power f (k + 1)) == r0 then some (0 + inner.length) else
        (((applyAll stage (r0.map (power f (k + 1))) rest).findIdx? (· == r0)).map (· + 1)).map (· + inner.length) := by
    intro k hk rest
    have hnone : (inner.map (List.map (power f k))).findIdx? (· == r0) = none := by
      refine List.findIdx?_eq_none_iff.mpr fun x hx => beq_eq_false_iff_ne.mpr fun h => ?_
      obtain ⟨r, hr, rfl⟩ := List.mem_map.mp hx
      have hp : r.Perm r0 := applyAll_perm stage pn r0 r (hl ▸ List.mem_append_left _ hr)
      refine hin r hr (M - k) (Nat.sub_le M k) ?_
      rw [← h, List.map_map]
      refine (List.map_id r).symm.trans (List.map_inj_left.mpr fun b hb => ?_)
      show b = power f (M - k + 1) (power f k b)
      rw [← power_add, Nat.add_right_comm, Nat.sub_add_cancel hk, hid b (hp.mem_iff.mp hb)]
    rw [applyAll_append, applyAll_map, hl, List.map_append, List.map_cons, List.map_nil, List.getLastD_concat,
      List.append_assoc, List.singleton_append, List.map_map, List.findIdx?_append, hnone, List.findIdx?_cons,
      List.length_map]
    -- `power f (k + 1)` is `power f k ∘ f` by definition, and that is how the rewriting left the condition
    show _ = if r0.map (power f k ∘ f) == r0 then _ else _
    cases (r0.map (power f k ∘ f) == r0) <;> rfl
  intro m
  induction m with
  | zero =>
    intro k (hk : k = M)
    subst hk
    rw [List.replicate_succ, List.flatten_cons, List.append_assoc, hlead k (Nat.le_refl k), hM,
      if_pos (beq_iff_eq.mpr rfl)]
    exact ⟨_, rfl, by rw [Nat.zero_add, Nat.one_mul, hlen]⟩
  | succ m ih =>
    intro k hk
    have hlt : k < M := hk ▸ Nat.lt_add_of_pos_right (Nat.succ_pos m)
    obtain ⟨n, hn, hnl⟩ := ih (k + 1) ((Nat.add_right_comm k 1 m).trans hk)
    rw [List.replicate_succ, List.flatten_cons, List.append_assoc, hlead k (Nat.le_of_lt hlt),
      beq_eq_false_iff_ne.mpr (hmin k hlt), if_neg Bool.false_ne_true, hn]
    exact ⟨_, rfl, by rw [Nat.succ_mul (m + 1), ← hnl, hlen, Nat.add_assoc]⟩

/-- The lead length of a fresh generator whose plain course is `M` leads, by the criterion above.  The relabelling is
read off the first lead end as for a start row in rounds (for another start row the answer is `none`). -/
def plainCourse (g? : Option Gen) (M fuel : Nat) : Option Nat :=
  match g? with
  | some { kind := .pn c, startRow := start, hasBob := false, hasSingle := false, index, row, callPN := [], .. } =>
    let lead := applyAll c.stage start c.methodPN
    let lh := lead.getLastD start
    let f := fun b => lh.getD (b - 1) 0
    let hs := heads f M lh
    if leadIndex c index = 0 ∧ 0 < c.leadLen ∧ row = start ∧ M * c.leadLen ≤ fuel ∧ start.map f = lh ∧
        hs.findIdx? (· == start) = some (M - 1) ∧ ∀ r ∈ lead.dropLast, r ∉ hs then
      some c.leadLen
    else none
  | _ => none

theorem courseLength_of_plainCourse {g? : Option Gen} {M fuel L : Nat} (h : plainCourse g? M fuel = some L) :
    courseLength g? fuel = some (M * L) ∧ ∃ g c, g? = some g ∧ g.kind = .pn c ∧ c.leadLen = L := by
  revert h
  fun_cases plainCourse g? M fuel <;> intro h <;> cases h
  rename_i c cs start index row lead lh f hs hc
  obtain ⟨hi, hL, rfl, hfuel, hf, hfind, hin⟩ := hc
  refine ⟨?_, _, _, rfl, rfl, rfl⟩
  have hne : lead ≠ [] := List.ne_nil_of_length_pos (by rw [applyAll_length]; exact hL)
  have hl : lead = lead.dropLast ++ [row.map f] := by
    rw [hf]
    show lead = lead.dropLast ++ [lead.getLastD row]
    rw [List.getLastD_eq_getLast?, List.getLast?_eq_some_getLast hne]
    exact (List.dropLast_concat_getLast hne).symm
  rw [show hs = _ from heads_eq f M lh, ← hf] at hfind hin
  obtain ⟨hlt, hM, hmin⟩ := List.findIdx?_eq_some_iff_getElem.mp hfind
  rw [List.length_map, List.length_range] at hlt
  obtain ⟨M, rfl⟩ := Nat.exists_eq_add_one_of_ne_zero (Nat.ne_of_gt (Nat.lt_of_le_of_lt (Nat.zero_le _) hlt))
  simp only [List.getElem_map, List.getElem_range, beq_iff_eq, Nat.add_sub_cancel, List.map_map] at hM hmin hin
  have := course_returns hl hM hmin
    (fun r hr k hk e => hin r hr (List.mem_map.mpr ⟨k, List.mem_range.mpr (Nat.lt_succ_of_le hk), e.symm⟩))
    (changesFrom c (index + (M + 1) * c.leadLen) (fuel - (M + 1) * c.leadLen))
  rw [← changesFrom_leads c hL (M + 1) index hi, ← changesFrom_add, Nat.add_sub_cancel' hfuel] at this
  exact (firstReturn_pn c fuel _ 0 true rfl).trans (by rw [plain_rows c fuel _ rfl rfl rfl]; exact this)

theorem leadLength_of_plainCourse {stage : Nat} {method : List Char} {bob single : Option (List (Int × List Char))}
    {startIndex : Int} {custom : Option (List Char)} {M fuel L : Nat}
    (h : plainCourse (mkPN stage method bob single startIndex custom) M fuel = some L) :
    (convertPN method).map List.length = some L := by
  obtain ⟨g, c, hg, hk, rfl⟩ := (courseLength_of_plainCourse h).2
  obtain ⟨_, _, _, _, _, hm, -, -, rfl⟩ := mkPN_some hg
  cases hk
  rw [hm]; rfl

/-- Plain Hunt on `n` comes round after `2n` rows, `n = 3..16` (degenerate below: on two bells the
code's backstroke change `12` makes both places, giving a 3-row cycle). -/
theorem plainHunt_course : ∀ n ∈ List.range' 3 14, courseLength (mkPlainHunt n none) 64 = some (2 * n) := by
  decide +kernel

theorem grandsire_table : ∀ n ∈ List.range' 5 12, plainCourse (mkGrandsire n none) (n - 2) 600 = some (2 * n) := by
  decide +kernel

theorem stedman_table : ∀ n ∈ [5, 7, 9, 11, 13, 15], plainCourse (mkStedman n none) n 300 = some 12 := by
  decide +kernel

/-- Grandsire on `n` bells has a lead of `2n` changes and a plain course of `2n(n-2)` rows, `n = 5..16`. -/
theorem grandsire_course : ∀ n ∈ List.range' 5 12,
    courseLength (mkGrandsire n none) 600 = some (2 * n * (n - 2)) :=
  fun n hn => Nat.mul_comm (n - 2) (2 * n) ▸ (courseLength_of_plainCourse (grandsire_table n hn)).1

/-- Stedman on odd `n = 5..15`: a plain course of `12n` rows. -/
theorem stedman_course : ∀ n ∈ [5, 7, 9, 11, 13, 15],
    courseLength (mkStedman n none) 300 = some (12 * n) :=
  fun n hn => Nat.mul_comm n 12 ▸ (courseLength_of_plainCourse (stedman_table n hn)).1

/-- The built-in notations have the documented lead lengths. -/
theorem builtin_lead_lengths :
    (∀ n ∈ List.range' 5 12, (convertPN (grandsireNotation n)).map List.length = some (2 * n)) ∧
    (∀ n ∈ [7, 9, 11, 13, 15], (convertPN (stedmanNotation n)).map List.length = some 12) := by
  refine ⟨fun n hn => leadLength_of_plainCourse (grandsire_table n hn), fun n hn => ?_⟩
  have h5 : (n == 5) = false := by revert n; decide
  have h := stedman_table n (List.mem_cons_of_mem 5 hn)
  rw [mkStedman, h5, if_neg Bool.false_ne_true] at h
  exact leadLength_of_plainCourse h

/-- Plain Bob Minor `&x16x16x16,12`: the first lead head is 135264 and the course has 60 rows. -/
theorem plain_bob_minor :
    ∃ g, mkPN 6 "&x16x16x16,12".toList none none 0 none = some g ∧
      (evRows (g.runOps ((List.range 12).map (fun i => GenOp.next (i % 2 == 0)))).2).getLast? = some [1, 3, 5, 2, 6, 4] ∧
      courseLength (some g) 100 = some 60 :=
  exists_eq_some_and (by decide +kernel)

/-! ### The notation round trip

`Wheatley.RoundTrip` (lemma files `Lemmas/RoundTrip*.lean`) describes a notation by its blocks
(`Block`: an optional `&` / `+`, then changes `Tok`: a cross written `x` or `-` with any number of dots
before and after it, or the bell symbols of a place change), writes it out (`textOf`: a dot only between
two place changes, blocks joined by commas) and says what it stands for (`denoteAll`: in a comma-joined
notation every block palindromic unless marked `+`, a single block palindromic only when marked `&`). -/

open Wheatley.RoundTrip in
/-- **The round trip**: a notation written from its blocks — `x` or `-` for a cross with any number of
dots around it, a dot between two place changes, `&` / `+` in front of a block, blocks joined by commas —
is converted by `convert_pn` to exactly the changes the conventions define. -/
theorem notation_round_trip (bs : List Block) (hne : bs ≠ []) (h : ∀ b ∈ bs, b.WF) :
    convertPN (textOf bs) = some (denoteAll bs) := by
  match bs, hne, h with
  | [b], _, h =>
    have hb := h b List.mem_cons_self
    have hnc : (textOf [b]).contains ',' = false := by simpa [textOf, joinWith] using text_nocomma b hb
    rw [convertPN, hnc, if_neg Bool.false_ne_true, denoteAll_single]
    exact convertBlock_text b hb false
  | b :: b2 :: r, _, h =>
    have hc : (textOf (b :: b2 :: r)).contains ',' = true := joinWith_contains ',' _ _ _
    have hsplit : splitOn ',' (textOf (b :: b2 :: r)) = (b :: b2 :: r).map Block.text :=
      splitOn_joinWith ',' _ (List.cons_ne_nil _ _) fun p hp => by
        obtain ⟨x, hx, rfl⟩ := List.mem_map.mp hp
        exact text_nocomma x (h x hx)
    rw [convertPN, if_pos hc, hsplit, denoteAll_multi, mapM_map_some Block.text (convertBlock · true)
      (Block.denote true) _ fun x hx => convertBlock_text x (h x hx) true]


open Wheatley.RoundTrip in
/-- … hence a generator built from a written notation rings the changes the conventions define
(`plain_rows` then gives every row). -/
theorem generator_rings_the_notation (bs : List Block) (hne : bs ≠ []) (h : ∀ b ∈ bs, b.WF)
    (stage : Nat) (bob single : Option (List (Int × List Char))) (startIndex : Int)
    (custom : Option (List Char)) (g : Gen)
    (hg : mkPN stage (textOf bs) bob single startIndex custom = some g) :
    ∃ c : PNCfg, g.kind = .pn c ∧ c.methodPN = denoteAll bs ∧ c.stage = stage ∧ c.startIndex = startIndex := by
  obtain ⟨_, _, _, _, _, hm, -, -, rfl⟩ := mkPN_some hg
  exact ⟨_, rfl, Option.some.inj (hm.symm.trans (notation_round_trip bs hne h)), rfl, rfl⟩

open Wheatley.RoundTrip in
/-- Non-vacuity: Plain Bob Minor written `&x.16-16..x.16,+12` (dots at will around the crosses). -/
example :
    let bs : List Block :=
      [{ pre := some '&', first := .cross 'x' 0 1,
         rest := [.pl [1, 6], .cross '-' 0 0, .pl [1, 6], .cross 'x' 2 1, .pl [1, 6]] },
       { pre := some '+', first := .pl [1, 2], rest := [] }]
    textOf bs = "&x.16-16..x.16,+12".toList ∧
    denoteAll bs = [[], [1, 6], [], [1, 6], [], [1, 6], [], [1, 6], [], [1, 6], [], [1, 2]] := by
  decide +kernel


/-! ### System level: what is rung in the method is what the generator produced

The theorems above say what rows a generator produces.  This one says that those are the rows Wheatley rings: in
the timed world of `Model/World.lean`, in every state of every run. -/

section System
variable {K : Type} [Num K]
open MethodRows

/-- **While the method is being rung, the row Wheatley is ringing begins with the row generator's current row** (what
follows it are the cover bells, C01 / C03) - in every state of every run, for any events at any times: calls,
Look To at any moment, selections, size changes in mid-touch, settings, Stop Touch.  "The method is being rung" is
what the Bot's flags say: ringing, and neither the opening row nor rounds.  The generators concerned are those whose
`next_row` cannot raise (`Total`: place notation - hence Grandsire, Stedman and every CCCBR method -, Plain Hunt,
compositions); selections (`Sel`) must be of that kind too.

So every statement about the generator's rows - `plain_rows_denoted`, `generator_rings_the_notation`, C04's call
laws, C03's legality - is a statement about the rows rung. -/
theorem method_rows_are_the_generators (wt : K → K) (endTime : K) (fuel : Nat) (w : World K)
    (events : List (K × Ev)) (hs : ∀ ev ∈ events, Sel ev.2) (h : MethodRows.Inv w.bot) :
    (World.run wt endTime fuel w events).1.bot.isRinging = true →
    (World.run wt endTime fuel w events).1.bot.ringingOpening = false →
    (World.run wt endTime fuel w events).1.bot.ringingRounds = false →
      (World.run wt endTime fuel w events).1.bot.gen.row <+: (World.run wt endTime fuel w events).1.bot.row :=
  fun h1 h2 h3 => (MethodRows.botInvariant.run wt endTime fuel w events hs h).row ⟨h1, h2, h3⟩

/-- The hypothesis holds of a freshly built Bot (it is not ringing). -/
theorem fresh_bot_inv (g : Gen) (u s c : Bool) (nm : Option String) (id : Option Nat) (hg : Total g.kind) :
    MethodRows.Inv (Bot.init g u s c nm id) :=
  { total := hg, queued := (by intro g' hg'; cases hg'), row := (by intro hm; cases hm.1) }

/-- Non-vacuity: Grandsire Triples is a total generator. -/
example : ∃ g, mkGrandsire 7 none = some g ∧ Total g.kind :=
  ⟨grandsireTriples, mkGrandsire_7, trivial⟩

end System

end Wheatley.C02
