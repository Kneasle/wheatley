/-
C15 — pull-off: 3 s after Look To, or whenever the human treble actually goes.
-/
import Wheatley.Props.C11
import Wheatley.Model.World
import Wheatley.Lemmas.Bot
import Wheatley.Lemmas.Handlers
namespace Wheatley.C15
open Generated

variable {K : Type} [Field K] [LinearOrder K] [IsStrictOrderedRing K]

/-- Whether a human leads is decided on the *opening row's* first bell (the bell that strikes first). -/
theorem who_leads (b : Bot) (treble : Nat) (rest : Row) (h : b.openingRow = treble :: rest) :
    ∃ nUser o, (b.lookTo).2 = [Out.rReturn, Out.rInit b.n (b.userAssigned treble) nUser] ++ o := by
  unfold Bot.lookTo
  simp only [h]
  exact ⟨_, _, rfl⟩

/-- `LOOK_TO_DURATION` is 3 s; the World turns that call into `initialise_line(…, call_time + LOOK_TO_DURATION, …)`
(`look_to_with_hold_up`). -/
theorem anchor_is_look_to_plus_3 : (Num.ofQ lookToDuration : K) = 3 := C11.lookToDuration_is_3

/-- **Wheatley leads**: the line starts exactly 3 s after Look To, so (C11 `wait_hits_line`) the first
strike is exactly there. -/
theorem wheatley_leads (r : Reg K) (reg : List (K × K × K) → K × K) (stage : Nat) (startTime : K) :
    (r.initialiseLine reg stage false startTime).start = .fin startTime := rfl

/-- **A human leads**: the line is "not yet" … -/
theorem human_leads (r : Reg K) (reg : List (K × K × K) → K × K) (stage : Nat) (startTime : K) :
    (r.initialiseLine reg stage true startTime).start = .inf ∧
    (r.initialiseLine reg stage true startTime).dataSet = [] := ⟨rfl, rfl⟩

/-- … the leader's turn is the pull-off loop … -/
theorem leader_turn_is_pull_off (r : Reg K) (now : K) (row place : Nat) (h : r.start = .inf) :
    r.waitPlan now row place true = .pullOff := by
  simp [Reg.waitPlan, h]

/-- … which only polls — no strike, no progress, the same program counter — for as long as the line
is "not yet", however long that takes. -/
theorem pull_off_only_polls (w : World K) (wt : K → K) (bell : Nat) (uc hand : Bool)
    (hpc : w.pc = .pullOff bell uc hand) (h : w.rh.reg.start = .inf) :
    w.mainStep wt = (w, .sleep (Num.ofQ waitSleepTime)) := by
  unfold World.mainStep
  simp only [hpc, h]

/-- **Only the leader's strike ends it**: no other operation of the regression rhythm turns "not yet"
into a time — not another bell's strike (its expected blow is not 0), not a data point, not an
expectation. -/
theorem only_leader_anchors (r : Reg K) (wt : K → K) (reg : List (K × K × K) → K × K) (bell : Nat) (hand : Bool)
    (t : K) (h : r.start = .inf)
    (hnot : ∀ row place, r.lookupExpected bell hand = some (row, place) → r.blowTime row place ≠ 0) :
    (r.onBellRing wt reg bell hand t).start = .inf := by
  cases hq : r.lookupExpected bell hand with
  | none => rw [onBellRing_none r wt reg bell hand t hq]; exact h
  | some rp =>
    obtain ⟨w, e⟩ := onBellRing_some r wt reg bell hand t rp.1 rp.2 hq
    rw [e, if_neg (by simpa using hnot rp.1 rp.2 hq)]
    exact addDataPoint_start_inf r reg rp.1 rp.2 t w h

omit [Field K] [LinearOrder K] [IsStrictOrderedRing K] in
theorem expect_keeps_start (r : Reg K) (bell row place : Nat) (hand : Bool) :
    (r.expect bell row place hand).start = r.start := rfl

/-- **The leader's actual strike anchors the line**: the strike expected at blow 0 sets the start to
its own time, with weight 1 (it is never re-weighted) — and with the data set empty, as it is after
Look To, no regression can move it. -/
theorem leader_anchors (r : Reg K) (wt : K → K) (reg : List (K × K × K) → K × K) (bell : Nat) (hand : Bool)
    (t : K) (row place : Nat) (hexp : r.lookupExpected bell hand = some (row, place))
    (hb : r.blowTime row place = 0) (hempty : r.dataSet = []) (hmin : 2 ≤ r.minBells) :
    (r.onBellRing wt reg bell hand t).start = .fin t ∧
    (r.onBellRing wt reg bell hand t).interval = r.interval := by
  obtain ⟨w, e⟩ := onBellRing_some r wt reg bell hand t row place hexp
  rw [e, if_pos (by simp [hb]), addDataPoint_first ({ r with start := .fin t } : Reg K) reg row place t w hempty hmin]
  exact ⟨rfl, rfl⟩

/-- The rest of the first row is then placed from that strike at the configured speed:
place `p` of row 0 is due `I·p` after it. -/
theorem first_row_from_leader (l : Line K) (p : Nat) :
    indexToRealTime l 0 p = l.start + l.interval * p := by
  simp [C11.real_time]

/-! Non-vacuity: blow 0 is (row 0, place 0) and nothing else. -/
example (r : Reg ℚ) (hN : 0 < r.stage) (hg : 0 ≤ r.gap) : r.blowTime 0 0 = 0 ∧ r.blowTime 0 1 ≠ 0 := by
  simp [Reg.blowTime, C11.blow_index, Reg.line]

/-! ### Hold-ups of earlier touches (the waiting rhythm's `delay`) do not move the pull-off -/

theorem look_to_with_hold_up (w : World K) (wt : K → K) (callTime : K) (stage n : Nat) (wr : WaitR K)
    (hstub : w.rh.stub = none) (hw : w.rh.wait = some wr) :
    let w' := w.applyOut wt callTime (.rInit stage false n)
    w'.rh.reg.start = .fin (callTime + 3 - w'.delay) ∧ w'.delay = wr.delay ∧ w'.bot = w.bot
      ∧ w'.rh.stub = none := by
  unfold World.applyOut
  simp only [hstub, hw]
  rw [withReg_eq]
  exact ⟨by rw [wheatley_leads, anchor_is_look_to_plus_3]; rfl, rfl, rfl, rfl⟩

/-- The hold-up cancels: when the inner line starts at `T − delay` (inner frame), a wait for blow 0 that
begins before `T` on the real clock sleeps until exactly `T` on the real clock. -/
theorem wait_cancels_hold_up (v : World K) (T : K) (bell : Nat) (hand : Bool)
    (hst : v.rh.stub = none) (hs : v.rh.reg.start = .fin (T - v.delay))
    (hrow : v.bot.rowNumber = 0) (hplace : v.bot.place = 0) (hne : T - v.delay ≠ 0) (hnow : v.now < T) :
    v.now + (v.beginWait bell false hand).2.1 = T := by
  have hbt : indexToRealTime (v.rh.reg.line (T - v.delay)) 0 0 = T - v.delay := by
    rw [first_row_from_leader, Nat.cast_zero, mul_zero, add_zero]; rfl
  obtain ⟨_, -, -, e⟩ := beginWait_eq v bell false hand
  rw [e, hst, hrow, hplace,
    waitPlan_before v.rh.reg (T - v.delay) _ 0 0 false hs hne (by rw [hbt]; exact sub_lt_sub_right hnow _), hbt]
  -- `show` makes the `match` on the plan reduce
  show v.now + (T - v.delay - (v.now - v.delay)) = T
  rw [sub_sub_sub_cancel_right, add_sub_cancel]

/-- **Wheatley leads, whatever happened before**: after Look To the wait for the first strike that
begins before `Look To + 3 s` ends exactly at `Look To + 3 s` of the real clock, for every hold-up the
waiting rhythm has accumulated in earlier touches. -/
theorem first_strike_despite_hold_up (w : World K) (wt : K → K) (callTime : K) (stage n : Nat) (wr : WaitR K)
    (bell : Nat) (hand : Bool)
    (hstub : w.rh.stub = none) (hw : w.rh.wait = some wr)
    (hrow : w.bot.rowNumber = 0) (hplace : w.bot.place = 0)
    (hne : callTime + 3 - wr.delay ≠ 0)
    (hnow : (w.applyOut wt callTime (.rInit stage false n)).now < callTime + 3) :
    (w.applyOut wt callTime (.rInit stage false n)).now +
      ((w.applyOut wt callTime (.rInit stage false n)).beginWait bell false hand).2.1 = callTime + 3 := by
  obtain ⟨hs, hd, hb, hst⟩ := look_to_with_hold_up w wt callTime stage n wr hstub hw
  exact wait_cancels_hold_up _ _ bell hand hst hs (by rw [hb]; exact hrow) (by rw [hb]; exact hplace)
    (by rw [hd]; exact hne) hnow

/-- The rest of the Look To handler (generator swap, flags, first row, expectations) neither moves the
line's start nor touches the hold-up. -/
theorem lookToRest_keeps (wt : K → K) (w : World K) :
    (w.lookToRest wt).rh.reg.start = w.rh.reg.start ∧ (w.lookToRest wt).delay = w.delay := by
  rw [lookToRest_eq]
  show _ ∧ Rh.delay (w.handled wt _).rh = w.delay
  rw [handled_rh]
  obtain ⟨f, -⟩ := foldl_applyOut_turnKind wt w.now _ ({ w with bot := w.bot.firstRow } : World K)
    (fun o ho => by obtain ⟨_, _, rfl, _⟩ := mem_expectAll ho; rfl)
  exact ⟨f.start, f.delay⟩

/-- **Look To while the main thread is held up.**  The handler sleeps 20 ms on the socket thread "to
clear any current waiting loops"; the main thread leaves its hold-up meanwhile and books the time it
waited.  When the handler wakes up, the line is anchored with the hold-up *as it is then*: in the inner
rhythm's frame the start is `Look To + 3 − delay` for the very `delay` that every later wait uses, so
(`wait_cancels_hold_up`) the interrupted hold-up does not leak into the new touch. -/
theorem resume_anchors_with_current_hold_up (w : World K) (wt : K → K) (s : Susp K) (wr : WaitR K)
    (hw : w.rh.wait = some wr) (hut : s.userTreble = false) :
    (w.lookToResume wt s).rh.reg.start = .fin (s.callTime + 3 - (w.lookToResume wt s).delay) ∧
    (w.lookToResume wt s).delay = wr.delay := by
  unfold World.lookToResume
  obtain ⟨h1, h2⟩ := lookToRest_keeps wt (({ w with suspended := none } : World K).lookToInner s)
  rw [h1, h2]
  -- the first half of the handler: `initialise_line` with the hold-up of the moment it wakes up
  unfold World.lookToInner
  simp only [hw, hut]
  rw [withReg_eq, World.delay, hw]
  exact ⟨by rw [wheatley_leads, anchor_is_look_to_plus_3], rfl⟩

/-- **A peal-speed change does not end the wait for the leader**: while the line is "not yet", changing
(or re-sending) the peal speed changes the interval only; the line stays "not yet", so
(`leader_turn_is_pull_off`, `pull_off_only_polls`) Wheatley keeps waiting for the leader's strike. -/
theorem speed_change_keeps_waiting (r : Reg K) (newSpeed realTime : K) (h : r.start = .inf) :
    (r.changePealSpeed newSpeed realTime).start = .inf := by
  obtain ⟨_, _, hs, e⟩ := changePealSpeed_eq r newSpeed realTime
  rw [e]
  exact hs h

/-- **Whatever arrives meanwhile**: while the main thread waits for the human leader to pull off, the delivery of
any event leaves it in that loop and strikes nothing; and as long as the line is
still unanchored afterwards - only the leader's own strike anchors it (`only_leader_anchors`), or a new Look To -
the next wake-up only sleeps again. -/
theorem pull_off_survives_delivery (wt : K → K) (w : World K) (e : Ev) (bell : Nat) (uc hand : Bool)
    (hpc : w.pc = .pullOff bell uc hand) :
    (World.deliver wt w e).pc = .pullOff bell uc hand ∧
    ringsOf (World.deliver wt w e).obs = ringsOf w.obs ∧
    ((World.deliver wt w e).rh.reg.start = .inf →
      (World.deliver wt w e).mainStep wt = (World.deliver wt w e, .sleep (Num.ofQ waitSleepTime))) := by
  obtain ⟨h1, h2⟩ := deliver_never_rings wt w e
  exact ⟨h1.trans hpc, h2, fun hs => pull_off_only_polls _ wt bell uc hand (h1.trans hpc) hs⟩

section PullOff

/-- The line is not anchored, and the only expectation of the rhythm that sits at blow 0 is the leader's. -/
def Unanchored (w : World K) (lead : Nat) : Prop :=
  w.rh.reg.start = .inf ∧
  ∀ p ∈ w.rh.reg.expected, w.rh.reg.blowTime p.2.1 p.2.2 = 0 → p.1.1 = lead

/-- Events that are neither a strike of the leading bell, nor Look To, nor the second half of a Look To handler:
other bells' strikes, every other call, Stop Touch, assignments, settings, selections, size changes. -/
def QuietLead (lead : Nat) : Ev → Prop
  | .resume => False
  | .msg (.bellRung _ who) => who ≠ lead
  | .msg (.call c) => c ≠ Generated.call_LOOK_TO
  | .msg _ => True

/-- A quiet event leaves the line unanchored: a strike of a bell other than the leader is not expected at blow 0, and a
new peal speed leaves "not yet" as it is. -/
theorem deliver_quietLead (wt : K → K) (w : World K) (e : Ev) (lead : Nat) (hq : QuietLead lead e)
    (hu : Unanchored w lead) : Unanchored (World.deliver wt w e) lead := by
  cases e with
  | resume => exact hq.elim
  | msg m =>
    refine deliver_msg_told wt w m (P := fun rh => rh.reg.start = .inf ∧
        ∀ p ∈ rh.reg.expected, rh.reg.blowTime p.2.1 p.2.2 = 0 → p.1.1 = lead) (by rintro rfl; exact hq rfl) ?_ hu
    rintro rh o reg wait (⟨_, who, h, rfl, rfl⟩ | ⟨_, _, _, -, rfl⟩ | ⟨-, rfl⟩) ⟨hs, hi⟩ ht -
    · -- a strike
      cases ht with
      | skip => exact ⟨hs, hi⟩
      | ring g _ _ t =>
        obtain ⟨ds, n, own, x, s, i, e, -, he, eq⟩ := onBellRing_eq rh.reg wt g who h t
        refine ⟨only_leader_anchors rh.reg wt g who h t hs fun row place hl h0 =>
          hq (hi _ (lookupExpected_mem hl) h0), ?_⟩
        rw [eq]
        exact fun p hp => hi p (he p hp)
    · -- a setting
      cases ht with
      | skip | inertia => exact ⟨hs, hi⟩
      | speed _ _ sp t =>
        obtain ⟨s, i, hinf, eq⟩ := changePealSpeed_eq rh.reg sp t
        rw [eq]
        exact ⟨hinf hs, hi⟩
    · -- Stop Touch: the main loop is told to return
      cases ht with
      | skip | flag => exact ⟨hs, hi⟩

/-- **Nothing before the leader, however long and whatever else arrives.**  The main thread is in the pull-off
loop, the line is unanchored and the only expectation at blow 0 is the leader's.  If none of the events still to
come is a strike of the leading bell or a Look To - they may be anything else: the other ringers striking before
the leader, calls, Stop Touch, settings, assignments, size changes - then for the whole rest of the run, of
whatever length, Wheatley strikes nothing. -/
theorem silent_until_the_leader_pulls_off (wt : K → K) (endTime : K) (lead bell : Nat) (uc hand : Bool) :
    ∀ (fuel : Nat) (w : World K) (events : List (K × Ev)),
      w.pc = .pullOff bell uc hand → Unanchored w lead → (∀ ev ∈ events, QuietLead lead ev.2) →
      ringsOf (World.run wt endTime fuel w events).1.obs = ringsOf w.obs := by
  intro fuel w events hpc hu hq
  refine World.run_silent (I := fun w' : World K => w'.pc = .pullOff bell uc hand ∧ Unanchored w' lead)
    (fun _ _ h => h) ?_ ?_ endTime fuel w events hq ⟨hpc, hu⟩
  · intro w' h
    rw [pull_off_only_polls w' wt bell uc hand h.1 h.2.1]
    exact ⟨h, rfl⟩
  · intro w' e he h
    exact ⟨(deliver_never_rings wt w' e).1.trans h.1, deliver_quietLead wt w' e lead he h.2⟩

/-- Non-vacuity: after Look To with a human on the treble, the rhythm expects bell 1 at (row 0, place 0) and bell 3
at (row 0, place 2): only the leader's expectation sits at blow 0. -/
example (r : Reg ℚ) (hs : r.start = .inf) (he : r.expected = [((1, true), (0, 0)), ((3, true), (0, 2))]) :
    ∀ p ∈ r.expected, r.blowTime p.2.1 p.2.2 = 0 → p.1.1 = 1 := by
  intro p hp h0
  rw [he] at hp
  simp only [List.mem_cons, List.not_mem_nil, or_false] at hp
  rcases hp with rfl | rfl
  · rfl
  · exfalso
    revert h0
    simp [Reg.blowTime, Reg.line, indexToBlowTime, num_ofNat]

end PullOff

end Wheatley.C15
