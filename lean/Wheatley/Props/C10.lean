/-
C10 — Wheatley always makes progress and its main loop never dies.

Two of the exceptions that can end the main loop (`tick`, `start_next_row`) in the model are the index
`self._row[self._place]` and the stroke assertion of `start_next_row`.  Both are shown unreachable by
invariants that hold after *every* server message and every turn — for all histories, including
tower-size changes in the middle of a row.  A third, the `NullRowGenError` of the place holder, is
shown unreachable transition by transition.
-/
import Wheatley.Props.C07
import Wheatley.Props.C09
import Wheatley.Lemmas.StartRow
namespace Wheatley.C10
open Wheatley.C06

/-! ### The stroke assertion cannot fail -/

/-- If a start is armed for `k` boundaries ahead, the row that will start the method is on the
generator's start stroke. -/
def CtrInv (c : Ctl) (startHand : Bool) : Prop :=
  ∀ k, c.roundsLeft = some k → handOf (c.rowNumber + k + 1) = startHand

def BotInv (b : Bot) : Prop := CtrInv b.ctl b.gen.startHand

theorem assertion_passes (c : Ctl) (i : CtlIn) (hf : i.isFirst = false) (h : CtrInv c i.startHand) :
    assertFails c i = false := by
  unfold assertFails
  cases hs : startsNow c
  · rfl
  · -- a start is due: the coming row `c.rowNumber + 1` is on the start stroke
    have hn : nextRowNumber c i = c.rowNumber + 1 := by unfold nextRowNumber; rw [hf]; rfl
    rw [hn, ← h 0 (eq_of_beq hs)]
    exact bne_self_eq_false _

theorem boundary_keeps_inv (c : Ctl) (i : CtlIn) (hf : i.isFirst = false) (h : CtrInv c i.startHand) :
    CtrInv (ctlNext c i) i.startHand := by
  intro k hk
  show handOf (nextRowNumber c i + k + 1) = i.startHand
  rw [← h (k + 1) ((ctlNext_roundsLeft c i k).mp hk), nextRowNumber, hf, if_neg (by simp)]
  congr 1
  omega

theorem boundary_ok (b : Bot) (h : BotInv b) :
    BotInv (b.startNextRow false).1 ∧ Out.crash "AssertionError" ∉ (b.startNextRow false).2 := by
  have hpass := assertion_passes b.ctl (b.ctlIn false) rfl h
  have hstep : ctlStep b.ctl (b.ctlIn false) = .ok (ctlNext b.ctl (b.ctlIn false)) (startsNow b.ctl) := by
    simp [ctlStep, hpass]
  constructor
  · unfold BotInv
    rw [startNextRow_ctl b false _ _ hstep, startHand_of_kind _ _ (startNextRow_kind b false)]
    exact boundary_keeps_inv b.ctl (b.ctlIn false) rfl h
  · intro hm
    rcases startNextRow_crash_mem hm with ⟨_, hc⟩ | he | he
    · rw [hstep] at hc; cases hc
    · exact absurd he (by simp)
    · exact absurd he (by simp)

theorem turn_ok (b : Bot) (bell : Nat) (uc : Bool) (h : BotInv b) :
    BotInv (b.tickEnd bell uc).1 ∧ Out.crash "AssertionError" ∉ (b.tickEnd bell uc).2 := by
  obtain ⟨h1, h2⟩ := boundary_ok ({ b with place := b.place + 1 } : Bot) h
  exact ⟨tickEnd_fst b bell uc h h1, fun hm => h2 (tickEnd_crash_mem hm)⟩

theorem goCounter_ok (b : Bot) :
    BotInv { b with roundsLeft := some (if b.hand == b.gen.startHand then 1 else 0) } := by
  intro k hk
  cases hk
  show handOf (b.rowNumber + goCounter b.rowNumber b.gen.startHand + 1) = b.gen.startHand
  exact handOf_goCounter b.rowNumber b.gen.startHand

theorem go_ok (b : Bot) (h : BotInv b) : BotInv (b.onGo).1 :=
  ite_cases (P := fun p : Bot × List Out => BotInv p.1) (goCounter_ok b) h

/-- The first row of a touch satisfies the invariant, whatever came before: row 0, and the up-down-in counter is
the one for the start stroke of the generator that is now current. -/
theorem firstRow_ok (b : Bot) : BotInv b.firstRow := by
  intro k (hk : b.firstRow.roundsLeft = some k)
  show handOf (0 + k + 1) = (b.nextGen.getD b.gen).startHand
  rw [firstRow_roundsLeft] at hk
  revert hk
  cases b.upDownIn <;> cases (b.nextGen.getD b.gen).startHand <;> intro hk <;> cases hk <;> rfl

/-- Look To establishes the invariant from *any* state (also in the middle of a touch, also with a new
generator of the other start stroke). -/
theorem look_to_ok (b : Bot) :
    BotInv (b.lookTo).1 ∨ (b.openingRow = [] ∧ (b.lookTo).1 = b) :=
  lookTo_fst (P := fun b' => BotInv b' ∨ (b.openingRow = [] ∧ b' = b)) b (fun h => Or.inr ⟨h, rfl⟩)
    (Or.inl (firstRow_ok b))

/-- Look To and Go establish the invariant; every other server message leaves counter, row number and
start stroke alone (Bob/Single only set a flag of the generator; a queued generator only becomes current
at Look To). -/
theorem msg_ok (b : Bot) (m : Msg) (h : BotInv b) : BotInv (b.onMsg m).1 := by
  have hr := onMsg_handles b m
  generalize b.onMsg m = p at hr
  induction hr with
  | lookTo => exact firstRow_ok b
  | go => exact goCounter_ok b
  | _ => exact h

theorem init_ok (g : Gen) (u s c : Bool) (n : Option String) (id : Option Nat) : BotInv (Bot.init g u s c n id) := by
  intro k hk; simp [Bot.init, Bot.ctl] at hk

/-! ### The row index cannot run off the row -/

def PlaceInv (b : Bot) : Prop := b.isRinging = true → b.place < b.row.length

/-- The invariant is what the first half of a turn needs. -/
theorem turn_begins (b : Bot) (h : PlaceInv b) (hr : b.isRinging = true) : b.tickBegin ≠ none := by
  unfold Bot.tickBegin
  rw [List.getElem?_eq_getElem (h hr)]
  simp

theorem startNextRow_place (b : Bot) (f : Bool) (h1 : b.openingRow ≠ []) (h2 : b.rounds ≠ []) :
    PlaceInv (b.startNextRow f).1 ∨ (∃ e, Out.crash e ∈ (b.startNextRow f).2) := by
  rcases startNextRow_cases b f with ⟨_, e⟩ | ⟨c, s, _, e⟩ <;> rw [e]
  · exact Or.inr ⟨_, List.mem_singleton.mpr rfl⟩
  · have hq := boundary_eq b c s
    rcases snrFinish_cases (b.boundary c s) (b.standCall s) with ⟨hr, e1⟩ | ⟨_, e', _, _, e1⟩ | ⟨_, hnil, e1⟩ <;> rw [e1]
    · exact Or.inl fun hr' => absurd (hr.symm.trans hr') (by simp)
    · exact Or.inr ⟨e', by simp⟩
    · refine Or.inl fun _ => ?_
      have hpos : ∀ r : Row, r ≠ [] → 0 < r.length := fun r => List.length_pos_iff.mpr
      rcases generateNextRow_cases (b.boundary c s) with ⟨_, e2⟩ | ⟨_, _, e2⟩ | ⟨_, _, g', r, cs', _, e2⟩ | ⟨_, _, _, _, _, e2⟩
      · rw [e2, hq]; exact hpos _ h1
      · rw [e2, hq]; exact hpos _ h2
      · rw [e2, hq]; exact hpos _ (padded_ne_nil r _ h1)
      · rw [e2] at hnil; cases hnil

/-- **A turn keeps the index inside the row** — even when the tower size changed during the row
(the row ends at `min(tower size, row length)`) — unless the row boundary raised. -/
theorem turn_keeps_place (b : Bot) (bell : Nat) (uc : Bool) (h1 : b.openingRow ≠ []) (h2 : b.rounds ≠ []) :
    PlaceInv (b.tickEnd bell uc).1 ∨ (∃ e, Out.crash e ∈ (b.tickEnd bell uc).2) := by
  rcases tickEnd_cases b bell uc with ⟨hlt, e⟩ | ⟨_, e⟩ <;> rw [e]
  · exact Or.inl fun _ => Nat.lt_of_lt_of_le hlt (Nat.min_le_right _ _)
  · exact (startNextRow_place _ false h1 h2).imp id fun ⟨e', he⟩ => ⟨e', List.mem_append_right _ he⟩

/-- Look To puts the index at 0 of the (non-empty) opening row. -/
theorem look_to_place (b : Bot) (treble : Nat) (rest : Row) (h : b.openingRow = treble :: rest) (h2 : b.rounds ≠ []) :
    PlaceInv (b.lookTo).1 ∨ (∃ e, Out.crash e ∈ (b.lookTo).2) :=
  Or.inl (lookTo_fst (P := PlaceInv) b (fun e => by rw [h] at e; cases e)
    fun _ => by show 0 < b.openingRow.length; rw [h]; exact Nat.succ_pos _)

/-- A size change never touches the row being rung or the place (only what the *next* rows are built
from), so the index stays valid across it. -/
theorem size_change_keeps_place (b : Bot) (h : PlaceInv b) : PlaceInv (b.onSizeChange).1 := by
  unfold Bot.onSizeChange
  split
  · exact h
  · exact h

/-- After a size change to a non-empty tower, opening row and rounds are non-empty again. -/
theorem size_change_rows (b : Bot) (hn : 0 < b.n) (op : Row) (h : startingRow b.n b.gen.customStart = some op) :
    (b.onSizeChange).1.openingRow ≠ [] ∧ (b.onSizeChange).1.rounds ≠ [] := by
  rw [onSizeChange_ok h]
  exact ⟨startingRow_ne_nil hn h, rounds_ne_nil hn⟩

/-- A wait ends at the first test after the awaited bell has been heard on the current stroke
(`C09.own_strike_disarms` says hearing it empties the test): the turn completes within one poll. -/
theorem wait_ends_when_heard {K : Type} [Num K] (w : World K) (wt : K → K) (wr : WaitR K) (bell : Nat) (hand : Bool)
    (d : K) (js : Bool) (hw : w.rh.wait = some wr) (h : bell ∉ wr.expected hand) :
    ∃ w' : World K, w.afterInner wt bell true hand d js = w'.finishTick wt bell true :=
  ⟨_, afterInner_leaves wt w bell hand d js hw (by simp [h])⟩

/-! ### The place holder is never asked for a row

In server mode Wheatley starts with a `PlaceHolderGenerator` (stage 0) whose `_gen_row` raises
`NullRowGenError`.  A touch can begin with it: `server_main` calls `look_to_has_been_called` directly
when the instance is spawned with `--look-to-time`, whether or not a row generator has arrived.  The
main loop survives because the method start of `start_next_row` re-checks the number of bells
(`_check_number_of_bells()` is false for stage 0): Wheatley calls `Stand` and keeps ringing rounds. -/

/-- While the current generator is the place holder, Wheatley is ringing rounds or the opening row. -/
def HolderInv (b : Bot) : Prop := b.gen.stage = 0 → (b.ringingRounds = true ∨ b.ringingOpening = true)

theorem ctlNext_holder (c : Ctl) (i : CtlIn) (hfit : i.fits = false)
    (h : c.ringingRounds = true ∨ c.ringingOpening = true) :
    (ctlNext c i).ringingRounds = true ∨ (ctlNext c i).ringingOpening = true := by
  -- the two fields of `ctlNext c i` as its definition gives them
  show (if _ then true else if startsNow c = true then !i.fits else c.ringingRounds) = true ∨
    (if startsNow c = true then false else c.ringingOpening) = true
  rw [hfit]
  cases startsNow c
  · exact h.imp_left fun h => ite_cases (P := (· = true)) rfl h
  · exact Or.inl (ite_cases (P := (· = true)) rfl rfl)

/-- **A row boundary with the place holder**: no exception of the generator (it is not asked for a
row), the invariant is kept, and the generator stays. -/
theorem holder_boundary (b : Bot) (f : Bool) (hg : b.gen.stage = 0)
    (h : b.ringingRounds = true ∨ b.ringingOpening = true) :
    Out.crash "NullRowGenError" ∉ (b.startNextRow f).2 ∧
    ((b.startNextRow f).1.ringingRounds = true ∨ (b.startNextRow f).1.ringingOpening = true) ∧
    (b.startNextRow f).1.gen.stage = 0 := by
  have hstage : (b.startNextRow f).1.gen.stage = 0 := by unfold Gen.stage; rw [startNextRow_kind]; exact hg
  rcases startNextRow_cases b f with ⟨_, e⟩ | ⟨c, s, hstep, e⟩
  · rw [e] at hstage ⊢
    exact ⟨by simp, h, hstage⟩
  · have hfit : b.checkNumberOfBells b.gen = false := by unfold Bot.checkNumberOfBells; simp [hg]
    have hq : c.ringingRounds = true ∨ c.ringingOpening = true :=
      (ctlStep_ok hstep).1 ▸ ctlNext_holder b.ctl (b.ctlIn f) hfit h
    refine ⟨fun hm => ?_, by rwa [← startNextRow_ctl b f c s hstep] at hq, hstage⟩
    have hst : Out.crash "NullRowGenError" ∉ b.standCall s := fun hm => nomatch (mem_standCall hm).1
    rw [e] at hm
    rcases snrFinish_plain (b.boundary c s) (b.standCall s) hq.symm with e1 | ⟨r, e1⟩ <;> rw [e1] at hm
    · exact hst hm
    · exact (List.mem_append.mp hm).elim hst (expectAll_no_crash _ _)

/-- **A whole turn with the place holder** never raises `NullRowGenError` and keeps the invariant. -/
theorem holder_turn (b : Bot) (bell : Nat) (uc : Bool) (hg : b.gen.stage = 0)
    (h : b.ringingRounds = true ∨ b.ringingOpening = true) :
    Out.crash "NullRowGenError" ∉ (b.tickEnd bell uc).2 ∧
    ((b.tickEnd bell uc).1.ringingRounds = true ∨ (b.tickEnd bell uc).1.ringingOpening = true) ∧
    (b.tickEnd bell uc).1.gen.stage = 0 := by
  obtain ⟨h1, h2, h3⟩ := holder_boundary ({ b with place := b.place + 1 } : Bot) false hg h
  exact ⟨fun hm => h1 (tickEnd_crash_mem hm),
    tickEnd_fst (P := fun b' => (b'.ringingRounds = true ∨ b'.ringingOpening = true) ∧ b'.gen.stage = 0) b bell uc
      ⟨h, hg⟩ ⟨h2, h3⟩⟩

/-- **Look To with the place holder as the generator to be rung** (the spawn path: `server_main` calls
`look_to_has_been_called` without the gate of `_on_look_to`): the touch starts in rounds and no
exception of the generator is raised. -/
theorem holder_look_to (b : Bot) (hg : (b.nextGen.getD b.gen).stage = 0) (hb : HolderInv b) :
    Out.crash "NullRowGenError" ∉ (b.lookTo).2 ∧
    ((b.lookTo).1.gen.stage = 0 → ((b.lookTo).1.ringingRounds = true ∨ (b.lookTo).1.ringingOpening = true)) :=
  ⟨fun hm => absurd (lookTo_crash_mem hm).1 (by simp),
    lookTo_fst (P := HolderInv) b (fun _ => hb) fun _ => Or.inl rfl⟩

/-- Calls other than `Look To` keep the invariant (`Rounds` only raises a flag; nothing else touches the
two flags or the current generator). -/
theorem holder_call_other (b : Bot) (c : String) (hc : c ≠ Generated.call_LOOK_TO) (h : HolderInv b) :
    HolderInv (b.onCall c).1 := by
  have hr := onCall_handles b c
  generalize b.onCall c = p at hr
  cases hr with
  | lookTo c hc' => exact absurd hc' hc
  | rounds => exact fun _ => Or.inr rfl
  | _ => exact h

/-! Non-vacuity: a freshly started server-mode Bot holds the place holder and satisfies the invariant;
its spawn-path Look To (tower of six loaded) rings rounds without an exception. -/
example : HolderInv (Bot.init mkPlaceholder true false true (some "Wheatley") (some 1)) ∧
    mkPlaceholder.stage = 0 := by
  refine ⟨fun _ => Or.inr rfl, rfl⟩

def spawned : Bot := ((Bot.init mkPlaceholder true false true (some "Wheatley") (some 1)).onMsg
                (.globalState [true, true, true, true, true, true])).1

example : (spawned.lookTo).1.isRinging = true ∧ (spawned.lookTo).1.row = [1, 2, 3, 4, 5, 6] ∧
      (spawned.lookTo).2.any (fun o => match o with | .crash _ => true | _ => false) = false := by
  decide

section Runs
variable {K : Type} [Num K]

theorem botInv_invariant : BotInvariant BotInv (fun _ => True) :=
  .ofFirstRow (fun b _ => firstRow_ok b) (fun b bell uc h => (turn_ok b bell uc h).1)
    (fun b m _ h => msg_ok b m h)

def WInv (w : World K) : Prop := BotInv w.bot ∧ w.crashed ≠ some "AssertionError"

theorem mainStep_inv (wt : K → K) (w : World K) (h : WInv w) : WInv (w.mainStep wt).1 := by
  refine ⟨(botInv_invariant.world wt).main w h.1, fun he => ?_⟩
  obtain ⟨p, hp, hs⟩ := mainStep_does wt w
  rcases hs.dies.crashed he with h' | h' | ⟨h', -⟩ | h'
  · exact h.2 h'
  · exact absurd h' (by simp)
  · exact absurd h' (by simp)
  · cases hp with
    | status outs ho => rcases ho _ h' with ⟨_, e⟩ | ⟨_, e⟩ <;> cases e
    | lookTo => exact absurd (lookTo_crash_mem h').1 (by simp)
    | tick bell uc => exact (turn_ok w.bot bell uc h.1).2 h'

theorem deliver_inv (wt : K → K) (w : World K) (e : Ev) (h : WInv w) : WInv (World.deliver wt w e) := by
  obtain ⟨_, _, _, _, hc⟩ := deliver_does wt w e
  exact ⟨(botInv_invariant.world wt).deliver w e trivial h.1, hc ▸ h.2⟩

theorem run_inv (wt : K → K) (endTime : K) :
    ∀ (fuel : Nat) (w : World K) (events : List (K × Ev)), WInv w → WInv (World.run wt endTime fuel w events).1 :=
  fun fuel w events h =>
    WorldInvariant.run (E := fun _ => True) ⟨fun _ _ h => h, mainStep_inv wt, fun w e _ => deliver_inv wt w e⟩
      endTime fuel w events (fun _ _ => trivial) h

/-- **The stroke assertion of `start_next_row` never kills the main loop**: start Wheatley with any generator,
any options, any rhythm; deliver any messages whatsoever, at any times, for as long as you like - selections,
calls in any order, size changes, strikes, settings, Look To during a touch, Go at any moment.  The main thread
does not die of `AssertionError`. -/
theorem never_fails_the_stroke_assertion (wt : K → K) (endTime now : K) (g : Gen) (u s c : Bool) (n : Option String)
    (id : Option Nat) (rh : Rh K) (tape : List (K × K)) (lookToTime : Option K) (fuel : Nat)
    (events : List (K × Ev)) :
    (World.run wt endTime fuel (World.init now (Bot.init g u s c n id) rh tape lookToTime) events).1.crashed
      ≠ some "AssertionError" :=
  (run_inv wt endTime fuel _ events ⟨init_ok g u s c n id, by simp [World.init]⟩).2

end Runs

section NoIndexError
variable {K : Type} [Num K]

theorem tickEnd_no_index (b : Bot) (bell : Nat) (uc : Bool) : Out.crash "IndexError" ∉ (b.tickEnd bell uc).2 := by
  intro hm
  rcases startNextRow_crash_mem (tickEnd_crash_mem hm) with ⟨he, _⟩ | he | he <;> exact absurd he (by simp)

/-- The first row of a touch is the opening row: nothing is asked of the generator, nothing can be raised. -/
theorem arm_start_no_crash (b : Bot) (e : String) : Out.crash e ∉ (b.armLookTo.startNextRow true).2 := by
  rw [arm_start]
  exact expectAll_no_crash _ e

def RInv (b : Bot) : Prop :=
  b.tower.bellState ≠ [] ∧ b.openingRow ≠ [] ∧ b.rounds ≠ [] ∧ PlaceInv b

theorem firstRow_rinv (b : Bot) (h : RInv b) : RInv b.firstRow :=
  ⟨h.1, h.2.1, h.2.2.1, fun _ => List.length_pos_iff.mpr h.2.1⟩

theorem lookTo_rinv (b : Bot) (h : RInv b) : RInv b.lookTo.1 ∧ ∀ e, Out.crash e ∉ b.lookTo.2 :=
  ⟨lookTo_fst b (fun e => absurd e h.2.1) (firstRow_rinv b h), fun _ hm => h.2.1 (lookTo_crash_mem hm).2⟩

theorem tickEnd_rinv (b : Bot) (bell : Nat) (uc : Bool) (h : RInv b) :
    RInv (b.tickEnd bell uc).1 ∨ ∃ e, Out.crash e ∈ (b.tickEnd bell uc).2 := by
  obtain ⟨ht, ho, hr, -⟩ := h
  refine (turn_keeps_place b bell uc ho hr).imp_left fun hp => ?_
  obtain ⟨c, p, g, cs, r, e, -⟩ := tickEnd_frame b bell uc
  rw [e] at hp ⊢
  exact ⟨ht, ho, hr, hp⟩

/-- Messages whose view of the tower is not empty: strikes and states carry at least one bell, sizes are
positive. -/
def Sane : Ev → Prop
  | .msg (.bellRung st _) => st ≠ []
  | .msg (.globalState st) => st ≠ []
  | .msg (.sizeChange n) => 0 < n
  | _ => True

theorem onMsg_rinv (b : Bot) (m : Msg) (hs : Sane (.msg m)) (h : RInv b) : RInv (b.onMsg m).1 := by
  obtain ⟨ht, ho, hr, hp⟩ := h
  have hsee : RInv (b.see m) := by
    refine ⟨List.length_pos_iff.mp ?_, ho, hr, hp⟩
    show 0 < (b.tower.apply m).size
    rw [b.tower.apply_size m]
    cases m with
    | bellRung st who => exact List.length_pos_iff.mpr hs
    | globalState st => exact List.length_pos_iff.mpr hs
    | sizeChange n => exact hs
    | _ => exact List.length_pos_iff.mpr ht
  have hr' := onMsg_handles b m
  generalize b.onMsg m = p at hr'
  induction hr' with
  | ignore | strike | badStart => exact hsee
  | resize m _ op hop =>
    have hn : 0 < (b.see m).n := List.length_pos_iff.mpr hsee.1
    exact ⟨hsee.1, startingRow_ne_nil hn hop, rounds_ne_nil hn, hp⟩
  | lookTo => exact firstRow_rinv b ⟨ht, ho, hr, hp⟩
  | stop => exact ⟨ht, ho, hr, fun hri => nomatch hri⟩
  | _ => exact ⟨ht, ho, hr, hp⟩

/-- The invariant of the whole world: the main thread has not died of `IndexError`, and as long as it is alive the
Bot's rows and place are in order. -/
def WInv2 (w : World K) : Prop := w.crashed ≠ some "IndexError" ∧ (w.pc ≠ .done → RInv w.bot)

theorem finishTick_inv2 (wt : K → K) (w : World K) (bell : Nat) (uc : Bool) (hr : RInv w.bot)
    (hc : w.crashed ≠ some "IndexError") : WInv2 (w.finishTick wt bell uc).1 := by
  obtain ⟨l, rh, now, la, tape, md, cr, pc, h, -, hd⟩ := ran_eq wt w.now w (w.bot.tickEnd bell uc) .tickSlept
  rw [finishTick_fst, h]
  rcases hd with ⟨hn, rfl, rfl⟩ | ⟨e, he, rfl, rfl⟩
  · exact ⟨hc, fun _ => (tickEnd_rinv w.bot bell uc hr).resolve_right fun ⟨e, he⟩ => not_crash_of_findSome_none hn e he⟩
  · exact ⟨fun e' => tickEnd_no_index w.bot bell uc (mem_of_findSome_isCrash (Option.some.inj e' ▸ he)),
      fun hp => absurd rfl hp⟩

theorem mainStep_inv2 (wt : K → K) (w : World K) (h : WInv2 w) : WInv2 (w.mainStep wt).1 := by
  by_cases hd : w.pc = .done
  · rw [mainStep_fst, hd]; exact h
  have hr := h.2 hd
  obtain ⟨p, hp, hst⟩ := mainStep_does wt w
  refine ⟨fun he => ?_, fun ha => ?_⟩
  · rcases hst.dies.crashed he with h' | h' | ⟨-, hri, hn⟩ | h'
    · exact h.1 h'
    · exact absurd h' (by simp)
    · exact turn_begins w.bot hr.2.2.2 hri hn
    · cases hp with
      | status outs hs => rcases hs _ h' with ⟨_, e'⟩ | ⟨_, e'⟩ <;> cases e'
      | lookTo => exact (lookTo_rinv w.bot hr).2 _ h'
      | tick bell uc => exact tickEnd_no_index w.bot bell uc h'
  · rw [hst.did.bot]
    cases hp with
    | status => exact hr
    | lookTo => exact (lookTo_rinv w.bot hr).1
    | tick bell uc => exact (tickEnd_rinv w.bot bell uc hr).resolve_right fun ⟨e, he⟩ => hst.dies.alive ha e he

theorem deliver_inv2 (wt : K → K) (w : World K) (e : Ev) (hs : Sane e) (h : WInv2 w) : WInv2 (World.deliver wt w e) := by
  obtain ⟨p, hp, ⟨l, hb, -, -⟩, hpc, hc⟩ := deliver_does wt w e
  refine ⟨hc ▸ h.1, fun hd => ?_⟩
  have hr := h.2 (hpc ▸ hd)
  rw [hb]
  cases hp with
  | nothing => exact hr
  | wake => exact firstRow_rinv w.bot hr
  | sleep => exact hr
  | msg m => exact onMsg_rinv w.bot m hs hr

theorem run_inv2 (wt : K → K) (endTime : K) :
    ∀ (fuel : Nat) (w : World K) (events : List (K × Ev)), (∀ ev ∈ events, Sane ev.2) → WInv2 w →
      WInv2 (World.run wt endTime fuel w events).1 :=
  WorldInvariant.run ⟨fun _ _ h => h, mainStep_inv2 wt, deliver_inv2 wt⟩ endTime

/-- **`tick()` never indexes past the row**: once the tower's state has arrived (which is when `main_loop` starts:
`wait_loaded`), deliver any messages whatsoever, at any times, for as long as you like - as long as they describe a
tower that has bells (states and strikes carry at least one bell, sizes are positive): size changes in the middle of
a row, Look To during a touch, selections, Stop Touch, anything.  The main thread does not die of `IndexError`. -/
theorem never_indexes_past_the_row (wt : K → K) (endTime : K) (fuel : Nat) (w : World K) (events : List (K × Ev))
    (hs : ∀ ev ∈ events, Sane ev.2) (hr : RInv w.bot) (hc : w.crashed ≠ some "IndexError") :
    (World.run wt endTime fuel w events).1.crashed ≠ some "IndexError" :=
  (run_inv2 wt endTime fuel w events hs ⟨hc, fun _ => hr⟩).1

/-- The hypothesis is what the first global state establishes: a freshly built Bot that has received a non-empty
`s_global_state` (its start row free of repeated bells, as every constructor guarantees) satisfies `RInv`. -/
theorem loaded_ok (g : Gen) (u s c : Bool) (n : Option String) (id : Option Nat) (st : List Bool) (hst : st ≠ [])
    (hg : ∀ cs, g.customStart = some cs → hasDup cs = false) :
    RInv ((Bot.init g u s c n id).onMsg (.globalState st)).1 := by
  have hn : 0 < st.length := List.length_pos_iff.mpr hst
  obtain ⟨op, hop⟩ : ∃ op, startingRow st.length g.customStart = some op := by
    cases hcs : g.customStart with
    | none => exact ⟨_, rfl⟩
    | some cs => exact ⟨appendMissing st.length cs, by rw [startingRow, hg cs hcs]; rfl⟩
  rw [loaded_eq g u s c n id st hop]
  exact ⟨hst, startingRow_ne_nil hn hop, rounds_ne_nil hn, fun hri => nomatch hri⟩

end NoIndexError

end Wheatley.C10
