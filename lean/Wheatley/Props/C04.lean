/-
C04 — Bob and Single act exactly at the next call position, exactly once.

The statements are about `pnStep` (the model of `PlaceNotationGenerator._gen_row`) and `dixonStep`.
`callAt d li` is "the call is defined at lead index `li`" (`d.get(li)` truthy).
-/
import Wheatley.Lemmas.Gen
import Wheatley.Lemmas.Cli
import Wheatley.Lemmas.Handlers
namespace Wheatley.C04

def plainChange (c : PNCfg) (index : Nat) : Places := c.methodPN.getD (leadIndex c index) []

/-- "No call is due at this row": each pending call is undefined at the current lead index. -/
def NothingFires (c : PNCfg) (g : Gen) : Prop :=
  (g.hasBob = true → callAt c.bobs (leadIndex c g.index) = none) ∧
  (g.hasSingle = true → callAt c.singles (leadIndex c g.index) = none)

theorem NothingFires.of_clear (c : PNCfg) {g : Gen} (hb : g.hasBob = false) (hs : g.hasSingle = false) :
    NothingFires c g :=
  ⟨fun h => (Bool.false_ne_true (hb.symm.trans h)).elim, fun h => (Bool.false_ne_true (hs.symm.trans h)).elim⟩

theorem pnStep_of_nothingFires (c : PNCfg) (g : Gen) (h : NothingFires c g) :
    pnStep c g = ({ g with callPN := g.callPN.tail }, permute c.stage g.row (pnChange c g g.index)) := by
  rw [pnStep, pnArm_idle h.1 h.2]

/-- **A call alters nothing until its position.**  While no pending call is defined at the current
lead index and no earlier call is still being generated, the row is the plain row and the pending
flags are untouched (the call stays pending). -/
theorem call_inert_before_position (c : PNCfg) (g : Gen) (h : NothingFires c g) (hq : g.callPN = []) :
    (pnStep c g).2 = permute c.stage g.row (plainChange c g.index) ∧
    (pnStep c g).1.hasBob = g.hasBob ∧ (pnStep c g).1.hasSingle = g.hasSingle ∧
    (pnStep c g).1.callPN = [] := by
  rw [pnStep_of_nothingFires c g h]
  simp only [pnChange, hq, plainChange, List.tail_nil, and_self]

/-- **A call made where none is defined never changes a row immediately** (special case, stated
for the row right after the call is made). -/
theorem undefined_call_no_immediate_change (c : PNCfg) (g : Gen) (hq : g.callPN = [])
    (hf : g.hasBob = false ∧ g.hasSingle = false)
    (hb : callAt c.bobs (leadIndex c g.index) = none) :
    (pnStep c g.setBob).2 = (pnStep c g).2 := by
  have h1 : NothingFires c g.setBob := ⟨fun _ => hb, (NothingFires.of_clear c hf.1 hf.2).2⟩
  rw [(call_inert_before_position c g.setBob h1 hq).1,
    (call_inert_before_position c g (.of_clear c hf.1 hf.2) hq).1]
  rfl

/-- **At its position a Bob fires**: the first change of the Bob's notation is used instead of the
method's, both flags are cleared (it fires once), and the rest of the notation is queued. -/
theorem bob_fires (c : PNCfg) (g : Gen) (p : Places) (rest : List Places) (hB : g.hasBob = true)
    (hd : callAt c.bobs (leadIndex c g.index) = some (p :: rest)) :
    (pnStep c g).2 = permute c.stage g.row p ∧
    (pnStep c g).1.hasBob = false ∧ (pnStep c g).1.hasSingle = false ∧
    (pnStep c g).1.callPN = rest := by
  rw [pnStep, pnArm_bob hB hd]
  exact ⟨rfl, rfl, rfl, rfl⟩

/-- The same for a Single (when no Bob fires at this row). -/
theorem single_fires (c : PNCfg) (g : Gen) (p : Places) (rest : List Places)
    (hB : g.hasBob = true → callAt c.bobs (leadIndex c g.index) = none) (hS : g.hasSingle = true)
    (hd : callAt c.singles (leadIndex c g.index) = some (p :: rest)) :
    (pnStep c g).2 = permute c.stage g.row p ∧
    (pnStep c g).1.hasBob = false ∧ (pnStep c g).1.hasSingle = false ∧
    (pnStep c g).1.callPN = rest := by
  rw [pnStep, pnArm_single hB hS hd]
  exact ⟨rfl, rfl, rfl, rfl⟩

/-- Run `n` plain `next` operations (no calls made meanwhile) on a place-notation generator. -/
def iter (c : PNCfg) : Nat → Gen → Gen × List Row
  | 0, g => (g, [])
  | n + 1, g =>
    let (g1, r) := pnStep c g
    let g2 := { g1 with row := r, index := g.index + 1 }
    let (g3, rs) := iter c n g2
    (g3, r :: rs)

/-- The rows obtained by applying the given changes one after the other. -/
def applyAll (stage : Nat) : Row → List Places → List Row
  | _, [] => []
  | r, p :: ps => permute stage r p :: applyAll stage (permute stage r p) ps

/-- **The call's notation replaces the method's for exactly the length of the call**, whatever the
lead positions passed meanwhile: with the remaining changes `q` queued and no call pending, the
next `q.length` rows are `q` applied in order, after which nothing is queued and nothing is
pending — the generator is in a plain state at the advanced index. -/
theorem queued_call_runs_out (c : PNCfg) :
    ∀ (q : List Places) (g : Gen), g.callPN = q → g.hasBob = false → g.hasSingle = false →
      (iter c q.length g).2 = applyAll c.stage g.row q ∧
      (iter c q.length g).1.callPN = [] ∧ (iter c q.length g).1.hasBob = false ∧
      (iter c q.length g).1.hasSingle = false ∧ (iter c q.length g).1.index = g.index + q.length := by
  intro q
  induction q with
  | nil => exact fun g hq hb hs => ⟨rfl, hq, hb, hs, rfl⟩
  | cons p q ih =>
    intro g hq hb hs
    have hstep : pnStep c g = ({ g with callPN := q }, permute c.stage g.row p) := by
      rw [pnStep_of_nothingFires c g (.of_clear c hb hs)]
      simp only [hq, pnChange, List.tail_cons]
    simp only [List.length_cons, iter, hstep]
    obtain ⟨h1, h2, h3, h4, h5⟩ :=
      ih { g with callPN := q, row := permute c.stage g.row p, index := g.index + 1 } rfl hb hs
    exact ⟨congrArg (permute c.stage g.row p :: ·) h1, h2, h3, h4, h5.trans (Nat.add_right_comm _ 1 _)⟩

/-- **Afterwards the plain method resumes**: in a plain state (nothing pending, nothing queued) a
row is the plain row and the state stays plain, so later leads are plain unless a new call is made. -/
theorem plain_stays_plain (c : PNCfg) (g : Gen) (hq : g.callPN = []) (hb : g.hasBob = false)
    (hs : g.hasSingle = false) :
    (pnStep c g).2 = permute c.stage g.row (plainChange c g.index) ∧
    (pnStep c g).1.callPN = [] ∧ (pnStep c g).1.hasBob = false ∧ (pnStep c g).1.hasSingle = false := by
  obtain ⟨h1, h2, h3, h4⟩ := call_inert_before_position c g (.of_clear c hb hs) hq
  exact ⟨h1, h4, h2 ▸ hb, h3 ▸ hs⟩

/-- **Dixon's**: a pending Bob whose rule covers the leading bell supplies both changes of the whole
pull and is cleared only at the backstroke. -/
theorem dixon_bob_law (c : DixonCfg) (g : Gen) (hand : Bool) (r : Places × Places)
    (hB : g.hasBob = true) (hd : alGet c.bob (g.row.headD 0) = some r) :
    dixonStep c g hand =
      some ((if hand then g else g.resetCalls), permute c.stage g.row (if hand then r.1 else r.2)) := by
  unfold dixonStep
  simp only [hB, if_true, hd, pick]

/-- Identical call histories give identical rows: the generator is a function of its operations. -/
theorem deterministic (g : Gen) (ops₁ ops₂ : List GenOp) (h : ops₁ = ops₂) :
    (g.runOps ops₁).2 = (g.runOps ops₂).2 := by rw [h]

/-! Non-vacuity: Grandsire's Single (`3.123` at lead index `2n-2`) is a two-change call. -/
example : ∃ g c, mkGrandsire 7 none = some g ∧ g.kind = .pn c ∧
    callAt c.singles 12 = some [[3], [1, 2, 3]] ∧ callAt c.singles 13 = none := by
  exact ⟨grandsireTriples, _, mkGrandsire_7, rfl, by decide⟩

/-- The generator that `-p` builds has exactly the call definitions that the last `--bob` / `--single` given
parse to (the defaults when none was given) - nothing is merged in. -/
theorem cli_calls_are_the_given_ones (c : Parse.Chars) (os : List Cli.Opt) (u : Option (List Char × List Char))
    (text pn : List Char) (stage : Nat) (b s : List (Int × List Char)) (g : Gen)
    (hc : (Cli.parseOpts os).comp = none) (hm : (Cli.parseOpts os).method = none)
    (hp : (Cli.parseOpts os).pn = some text) (hpn : Parse.placeNotation c text = .ok (stage, pn))
    (hb : Parse.callDef c ((Cli.bobsGiven os).getLast?.getD Generated.cliBob.toList) = .ok b)
    (hs : Parse.callDef c ((Cli.singlesGiven os).getLast?.getD Generated.cliSingle.toList) = .ok s)
    (hg : mkPN stage pn (some b) (some s) (Cli.parseOpts os).startIndex (Cli.parseOpts os).startRow = some g) :
    Cli.createRowGenerator c (Cli.parseOpts os) u = .ok (.gen g) :=
  Cli.pn_builds c _ u text pn stage b s g hc hm hp hpn (by rw [Cli.parse_bob]; exact hb)
    (by rw [Cli.parse_single]; exact hs) hg

section System
variable {K : Type} [Num K]

/-- **A Bob or Single changes nothing when it is called** - at the level of the whole system, whenever the message
arrives (in rounds, in the method, mid-row, while the main thread waits for a human, while a Look To handler
sleeps) and whatever the state: the row being rung, the place in it, the generator's current row and its position
in the method are what they were, nothing is struck, the main thread is where it was.  All the call does is set its
flag; what the flag does is decided by `pnStep` at the next row it is defined for (the theorems above). -/
theorem call_changes_no_row_now (wt : K → K) (w : World K) (c : String)
    (hc : c = Generated.call_BOB ∨ c = Generated.call_SINGLE) :
    (World.deliver wt w (.msg (.call c))).bot.row = w.bot.row ∧
    (World.deliver wt w (.msg (.call c))).bot.place = w.bot.place ∧
    (World.deliver wt w (.msg (.call c))).bot.gen.row = w.bot.gen.row ∧
    (World.deliver wt w (.msg (.call c))).bot.gen.index = w.bot.gen.index ∧
    (World.deliver wt w (.msg (.call c))).bot.gen.callPN = w.bot.gen.callPN ∧
    (World.deliver wt w (.msg (.call c))).pc = w.pc ∧
    ringsOf (World.deliver wt w (.msg (.call c))).obs = ringsOf w.obs := by
  obtain ⟨hpc, hr⟩ := deliver_never_rings wt w (.msg (.call c))
  obtain ⟨p, hp, hd, -⟩ := deliver_does wt w (.msg (.call c))
  rw [hd.bot]
  cases hp with
  -- an accepted Look To: not this message, but the Bot is untouched there anyway
  | sleep => exact ⟨rfl, rfl, rfl, rfl, rfl, hpc, hr⟩
  | msg =>
    rcases hc with rfl | rfl
    · rw [show (w.bot.onMsg (.call Generated.call_BOB)).1 = { w.bot with gen := w.bot.gen.setBob } from rfl]
      exact ⟨rfl, rfl, rfl, rfl, rfl, hpc, hr⟩
    · rw [show (w.bot.onMsg (.call Generated.call_SINGLE)).1 = { w.bot with gen := w.bot.gen.setSingle } from rfl]
      exact ⟨rfl, rfl, rfl, rfl, rfl, hpc, hr⟩

end System

end Wheatley.C04
