/-
C16 — compositions are rung row for row and called call for call.
-/
import Wheatley.Lemmas.Cli
import Wheatley.Lemmas.Handlers
namespace Wheatley.C16

/-- **Row for row**: the `k`-th request to a composition generator yields the `k`-th payload row with
its calls, and rounds (no calls) once the payload is exhausted — whatever the stroke. -/
theorem comp_next (g : Gen) (c : CompCfg) (hand : Bool) (hk : g.kind = .comp c) :
    g.next hand =
      .ok { g with row := (c.rows[g.index]?.map (·.1)).getD (rounds c.stage), index := g.index + 1 }
          ((c.rows[g.index]?.map (·.1)).getD (rounds c.stage))
          ((c.rows[g.index]?.map (·.2)).getD []) :=
  Gen.next_comp hk hand

/-- … hence `n` consecutive requests from a fresh (or reset) generator give the first `n` payload
rows in order, padded with rounds. -/
theorem comp_rows (c : CompCfg) :
    ∀ (hands : List Bool) (g : Gen), g.kind = .comp c →
      evRows (g.runOps (hands.map GenOp.next)).2 =
        (List.range hands.length).map (fun j => (c.rows[g.index + j]?.map (·.1)).getD (rounds c.stage)) := by
  intro hands
  induction hands with
  | nil => intro g _; rfl
  | cons h hs ih =>
    intro g hk
    simp only [List.map_cons, Gen.runOps, Gen.apply, comp_next g c h hk, List.length_cons, evRows]
    rw [ih _ (by simpa using hk)]
    simp only [List.range_succ_eq_map, List.map_cons, List.map_map, Nat.add_zero, Function.comp_def,
      Nat.add_assoc, Nat.add_comm 1]

/-- **Never calls `Stand`**: the constructor filters it out of every call list, for every payload. -/
theorem no_stand_in_calls (s : List Char) : "Stand" ∉ processCallString s := by
  unfold processCallString
  simp

/-- The stroke of the first composition row is the one implied by the number of opening rounds. -/
theorem comp_start_stroke (stage : Nat) (payload : List (List Char × List Char)) (g : Gen) (first : List Char)
    (c0 : List Char) (rest : List (List Char × List Char)) (hp : payload = (first, c0) :: rest)
    (h : mkComp stage payload = .ok g) :
    ∃ nsr, countLeading first payload 0 = some nsr ∧ g.startHand = (nsr % 2 == 0) := by
  subst hp
  unfold mkComp at h
  simp only [] at h
  split at h
  · cases h
  · rename_i nsr hn
    split at h
    · cases h
    · injection h with h; subst h
      exact ⟨nsr, hn, rfl⟩

/-- **Calls go out with the row's first strike**: a turn makes the row's calls iff it is the turn of
place 0, in the payload's order, before anything the next row brings. -/
theorem calls_with_lead (b : Bot) (bell : Nat) (uc : Bool) :
    ∃ pre post, (b.tickEnd bell uc).2 = pre ++ (if b.place == 0 then b.makeCalls b.calls else []) ++ post ∧
      (∀ o ∈ pre, o.isCall = false) := by
  have hpre : ∀ o ∈ b.strike bell uc, o.isCall = false := fun o ho => by obtain ⟨_, rfl, _⟩ := mem_strike ho; rfl
  rcases tickEnd_cases b bell uc with ⟨_, e⟩ | ⟨_, e⟩ <;> rw [e]
  · exact ⟨_, [], (List.append_nil _).symm, hpre⟩
  · exact ⟨_, _, rfl, hpre⟩

/-- **`--no-calls`**: with calling off no transition of the Bot emits a call — not the row's calls,
not the missed early calls on a late Go, not even `Stand`. -/
theorem no_calls_tick (b : Bot) (bell : Nat) (uc : Bool) (h : b.callComps = false) :
    ∀ o ∈ (b.tickEnd bell uc).2, o.isCall = false := by
  intro o ho
  rcases tickEnd_outs b bell uc o ho with ⟨_, rfl⟩ | ⟨_, rfl, hc⟩ | ⟨_, rfl⟩ | ⟨_, _, _, rfl⟩
  · rfl
  · rw [h] at hc; cases hc
  · rfl
  · rfl

theorem no_calls_go (b : Bot) (h : b.callComps = false) : (b.onGo).2 = [] := by
  rcases onGo_cases b with ⟨_, _, e⟩ | ⟨_, k, e⟩
  · rw [e]
  · rw [e]
    exact if_neg (by simp [h])

/-- **A late Go flushes every missed early call, in order** (most rounds-before-start first). -/
theorem late_go_flush (g : Gen) (left : Nat) :
    missedEarly g left =
      (((g.earlyCalls.filter (fun p => left < p.1)).mergeSort (fun p q => p.1 ≥ q.1)).map (·.2)).flatten := rfl

/-! Non-vacuity: a payload with two opening rounds, a call on the second and on a row. -/
example :
    ∃ g, mkComp 4 [("1234".toList, "".toList), ("1234".toList, "Go; Stand".toList),
                    ("2143".toList, "Bob".toList), ("1234".toList, "".toList)] = .ok g ∧
      g.earlyCalls = [(1, ["Go"])] ∧ g.startHand = true ∧
      evRows (g.runOps [.next true, .next false, .next true]).2 = [[2, 1, 4, 3], [1, 2, 3, 4], [1, 2, 3, 4]] := by
  refine ⟨_, rfl, ?_, ?_, ?_⟩ <;> decide +kernel

/-- **No stale calls**: a row of rounds (opening rounds, closing rounds, rounds after "Rounds") that
is not inside the up-down-in / Go countdown carries no calls at all — whatever calls the previous row,
or the previous touch, carried. -/
theorem rounds_carry_no_stale_calls (b : Bot) (isFirst : Bool) (c : Ctl) (started : Bool)
    (hc : ctlStep b.ctl (b.ctlIn isFirst) = .ok c started) (hleft : b.roundsLeft = none)
    (hr : c.ringingOpening = true ∨ c.ringingRounds = true) :
    (b.startNextRow isFirst).1.calls = [] := by
  have hq : (b.boundary c started).calls = [] := by
    rw [boundary_eq]
    show b.snrPrep.calls = []
    rw [snrPrep_calls, hleft]
  rw [startNextRow_ok hc]
  rcases snrFinish_plain (b.boundary c started) (b.standCall started) hr with e | ⟨r, e⟩ <;> rw [e] <;> exact hq

/-- Wheatley calls the composition unless `--no-calls` was given. -/
theorem cli_no_calls (c : Parse.Chars) (os : List Cli.Opt) (u : Option (List Char × List Char)) (cfg : Cli.Cfg)
    (h : Cli.consoleMain c os u = .built cfg) :
    cfg.callComps = !decide (Cli.Opt.noCalls ∈ os) :=
  (Cli.main_builds c os u cfg h).callComps

/-- A composition and a custom start row together are refused, with that message. -/
theorem cli_comp_with_start_row (c : Parse.Chars) (a : Cli.Args) (u : Option (List Char × List Char))
    (ref s : List Char) (hc : a.comp = some ref) (hs : a.startRow = some s) :
    Cli.createRowGenerator c a u = .error .exitCompStartRow := by
  unfold Cli.createRowGenerator
  simp [hc, hs]

section NoCalls
variable {K : Type} [Num K]

def callsOf (obs : List (Obs K)) : List (Obs K) := obs.filter (fun o => o.out.isCall)

/-- Anything but the settings channel (which could switch calling back on). -/
def NoSetting : Ev → Prop
  | .msg (.setting _) => False
  | _ => True

theorem mainDoes_no_call {b : Bot} {p : Bot × List Out} (h : b.callComps = false) {sp : Prop} (hp : b.MainDoes sp p) :
    ∀ o ∈ p.2, o.isCall = false := by
  intro o ho
  cases hp with
  | status outs hs => rcases hs o ho with ⟨_, rfl⟩ | ⟨_, rfl⟩ <;> rfl
  | lookTo =>
    rcases lookTo_cases b with ⟨_, e⟩ | ⟨_, _, _, e⟩ <;> rw [e] at ho <;>
      simp only [List.mem_cons, List.not_mem_nil, or_false] at ho
    · rcases ho with rfl | rfl <;> rfl
    · rcases ho with rfl | rfl | ho
      · rfl
      · rfl
      · obtain ⟨_, _, rfl, _⟩ := mem_expectAll ho; rfl
  | tick bell uc => exact no_calls_tick b bell uc h o ho

theorem socketDoes_no_call {b : Bot} {e : Ev} {p : Bot × List Out} (h : b.callComps = false) (hp : b.SocketDoes e p) :
    ∀ o ∈ p.2, o.isCall = false := by
  intro o ho
  rcases socketDoes_outs hp o ho with hr | rfl | ⟨_, -, hc⟩ | rfl
  · cases o <;> first | rfl | cases hr
  · rfl
  · exact absurd (h.symm.trans hc) (by simp)
  · rfl

theorem callsOff_invariant : BotInvariant (fun b => b.callComps = false) NoSetting where
  arm := fun b h => by rw [arm_start]; exact h
  tick := fun b bell uc h => by obtain ⟨c, p, g, cs, r, e, -⟩ := tickEnd_frame b bell uc; rw [e]; exact h
  msg := fun b m hq h => by
    have hr := onMsg_handles b m
    generalize b.onMsg m = p at hr
    induction hr with
    | settings => exact hq.elim
    | _ => exact h

/-- **No calls at all when told not to, however long, whatever arrives**: with calling off (`--no-calls`, or the
setting), whatever composition is rung, whenever Go comes, whatever else happens - as long as nobody touches the
settings - `World.run`, for any fuel, adds no `c_call` to what has been emitted. -/
theorem no_calls_when_told_not_to (wt : K → K) (endTime : K) :
    ∀ (fuel : Nat) (w : World K) (events : List (K × Ev)), w.bot.callComps = false → (∀ ev ∈ events, NoSetting ev.2) →
      callsOf (World.run wt endTime fuel w events).1.obs = callsOf w.obs := by
  intro fuel w events hc hq
  have inv : WorldInvariant wt (fun w' : World K => w'.bot.callComps = false ∧ callsOf w'.obs = callsOf w.obs)
      NoSetting :=
    { clock := fun _ _ h => h
      main := fun w' h =>
        let ⟨_, hp, hs⟩ := mainStep_does wt w'
        ⟨(callsOff_invariant.world wt).main w' h.1, (hs.did.filter_obs Out.isCall (mainDoes_no_call h.1 hp)).trans h.2⟩
      deliver := fun w' e he h =>
        let ⟨_, hp, hd, _⟩ := deliver_does wt w' e
        ⟨(callsOff_invariant.world wt).deliver w' e he h.1,
          (hd.filter_obs Out.isCall (socketDoes_no_call h.1 hp)).trans h.2⟩ }
  exact (inv.run endTime fuel w events hq ⟨hc, rfl⟩).2

end NoCalls

end Wheatley.C16
