/-
C19 — under Ringing Room's control, changes apply atomically and only between touches.
-/
import Wheatley.Generated.HandlerIR
import Wheatley.Props.C17
import Wheatley.Props.C15
import Wheatley.Props.C10
import Wheatley.Props.C07
import Wheatley.Lemmas.Cli
namespace Wheatley.C19
open Wheatley.Server

/-! ### (a) Atomicity -/

/-- **The real handlers respect the lock discipline** — checked on the action sequences regenerated
from `bot.py` on every run (removing a `with self.next_row_generator_lock:` makes this fail). -/
theorem ir_disciplined :
    disciplined Generated.onRowGenChange 0 = true ∧ disciplined Generated.onSizeChange 0 = true ∧
    disciplined Generated.lookTo 0 = true ∧ disciplined Generated.onLookTo 0 = true := by decide

/-- A thread is inside a critical section. -/
def Thread.inside (th : Thread) : Bool := th.depth != 0

/-- **Mutual-exclusion invariant** of the system: the lock's owner is the one thread (if any) that is
inside a critical section. -/
def MutexInv (s : Sys) : Prop :=
  ∀ t th, s.threads[t]? = some th → (th.depth ≠ 0 ↔ s.owner = some t)

/-- One enabled step of thread `t`: from its state and the lock's owner to its new state and the new owner. -/
inductive Fires (t : Nat) (th : Thread) (o : Option Nat) : Thread → Option Nat → Prop
  | acq {rest} : th.todo = .acq :: rest → o = none ∨ o = some t → Fires t th o ⟨rest, th.depth + 1⟩ (some t)
  | rel {rest} : th.todo = .rel :: rest → th.depth ≠ 0 →
      Fires t th o ⟨rest, th.depth - 1⟩ (if th.depth - 1 == 0 then none else o)
  | other {a rest} : th.todo = a :: rest → a ≠ .acq → a ≠ .rel → Fires t th o ⟨rest, th.depth⟩ o

/-- `Sys.step` read once: an enabled step of `t` is a step of thread `t` alone. -/
theorem step_some {s s' : Sys} {t : Nat} (hs : s.step t = some s') :
    ∃ th th', s.threads[t]? = some th ∧ Fires t th s.owner th' s'.owner ∧ s'.threads = s.threads.set t th' := by
  revert hs
  -- the seven ways through `Sys.step`: four refuse, three fire
  fun_cases Sys.step s t <;> intro hs
  · cases hs
  · cases hs
  · next th hth rest htodo ho => cases hs; exact ⟨_, _, hth, .acq htodo (by simpa using ho), rfl⟩
  · cases hs
  · cases hs
  · next th hth rest htodo hd _ => cases hs; exact ⟨_, _, hth, .rel htodo (by simpa using hd), rfl⟩
  · next th hth a rest h1 h2 htodo => cases hs; exact ⟨_, _, hth, .other htodo h1 h2, rfl⟩

theorem Fires.mutex {t : Nat} {th th' : Thread} {o o' : Option Nat} (h : Fires t th o th' o')
    (hi : th.depth ≠ 0 ↔ o = some t) :
    (th'.depth ≠ 0 ↔ o' = some t) ∧ ∀ u, u ≠ t → (o' = some u ↔ o = some u) := by
  cases h with
  | acq _ ho =>
    refine ⟨iff_of_true (Nat.succ_ne_zero _) rfl, fun u hu => ?_⟩
    rcases ho with rfl | rfl <;> simp only [Option.some.injEq, Ne.symm hu, reduceCtorEq]
  | rel _ hd =>
    rw [hi.mp hd]
    refine ⟨by simp only [ne_eq, beq_iff_eq, ite_eq_right_iff, reduceCtorEq, imp_false], fun u hu => ?_⟩
    split <;> simp only [Option.some.injEq, Ne.symm hu, reduceCtorEq]
  | other => exact ⟨hi, fun _ _ => Iff.rfl⟩

/-- A step of `t` writes thread `t` and the owner only.  So it keeps a property `R` of every thread together with the
owner, if the acting thread keeps it and the others do not lose it to the change of owner. -/
theorem step_keeps_each {R : Nat → Thread → Option Nat → Prop}
    (hR : ∀ {t th o th' o'}, Fires t th o th' o' → R t th o → R t th' o' ∧ ∀ u tu, u ≠ t → R u tu o → R u tu o')
    {s s' : Sys} {t : Nat} (h : ∀ u tu, s.threads[u]? = some tu → R u tu s.owner) (hs : s.step t = some s') :
    ∀ u tu, s'.threads[u]? = some tu → R u tu s'.owner := by
  obtain ⟨th, th', hth, hf, hset⟩ := step_some hs
  obtain ⟨hself, hothers⟩ := hR hf (h t th hth)
  intro u tu hu
  rw [hset] at hu
  by_cases e : t = u
  · subst e
    rw [List.getElem?_set_self'] at hu
    obtain ⟨_, -, rfl⟩ := Option.map_eq_some_iff.mp hu
    exact hself
  · exact hothers u tu (Ne.symm e) (h u tu (List.getElem?_set_ne e ▸ hu))

theorem step_keeps_mutex (s s' : Sys) (t : Nat) (h : MutexInv s) (hs : s.step t = some s') : MutexInv s' :=
  step_keeps_each (R := fun t th o => th.depth ≠ 0 ↔ o = some t)
    (fun hf hi => ⟨(hf.mutex hi).1, fun u _ hu h => h.trans ((hf.mutex hi).2 u hu).symm⟩) h hs

theorem Sys.run_keeps {P : Sys → Prop} (hstep : ∀ s s' t, P s → s.step t = some s' → P s') (s : Sys) (h : P s)
    (sched : List Nat) : P (s.run sched) := by
  fun_induction Sys.run s sched with
  | case1 => exact h
  | case2 s t _ s' hs ih => exact ih (hstep s s' t h hs)
  | case3 _ _ _ _ ih => exact ih h

/-- **Mutual exclusion for every schedule**: from a state where nobody but the lock's owner is inside, after any
schedule at most one thread is inside a critical section — so the critical sections of the handlers
never overlap, however their statements are interleaved. -/
theorem mutex (s : Sys) (h : MutexInv s) (sched : List Nat) : MutexInv (s.run sched) :=
  Sys.run_keeps step_keeps_mutex s h sched

theorem at_most_one_inside (s : Sys) (h : MutexInv s) (sched : List Nat) (t u : Nat) (th tu : Thread)
    (ht : (s.run sched).threads[t]? = some th) (hu : (s.run sched).threads[u]? = some tu)
    (hti : th.depth ≠ 0) (hui : tu.depth ≠ 0) : t = u :=
  have hm := mutex s h sched
  Option.some.inj (((hm t th ht).mp hti).symm.trans ((hm u tu hu).mp hui))

theorem init_mutex (progs : List (List Act)) :
    MutexInv { threads := progs.map (fun p => { todo := p, depth := 0 }), owner := none } := by
  intro t th ht
  obtain ⟨p, -, rfl⟩ := List.mem_map.mp (List.mem_of_getElem? ht)
  exact ⟨fun h => absurd rfl h, nofun⟩

def DiscInv (s : Sys) : Prop := ∀ (t : Nat) (th : Thread), s.threads[t]? = some th → disciplined th.todo th.depth = true

theorem Fires.disciplined {t : Nat} {th th' : Thread} {o o' : Option Nat} (h : Fires t th o th' o')
    (hd : disciplined th.todo th.depth = true) : disciplined th'.todo th'.depth = true := by
  cases h with
  | acq htodo => rw [htodo] at hd; exact hd
  | rel htodo => rw [htodo] at hd; exact (Bool.and_eq_true_iff.mp hd).2
  | @other a _ htodo h1 h2 =>
    rw [htodo] at hd
    cases a with
    | acq | rel => contradiction
    | rdGen | branch => exact hd
    | rdNext | wrNext | wrGen => exact (Bool.and_eq_true_iff.mp hd).2

theorem run_keeps_disc (s : Sys) (h : DiscInv s) (sched : List Nat) : DiscInv (s.run sched) :=
  Sys.run_keeps (fun _ _ _ => step_keeps_each (R := fun _ th _ => disciplined th.todo th.depth = true)
    fun hf hd => ⟨hf.disciplined hd, fun _ _ _ h => h⟩) s h sched

theorem disciplined_protected {a : Act} {rest : List Act} {d : Nat} (h : disciplined (a :: rest) d = true)
    (ha : a.protected = true) : d ≠ 0 := by
  cases a with
  | rdNext | wrNext | wrGen => exact bne_iff_ne.mp (Bool.and_eq_true_iff.mp h).1
  | acq | rel | rdGen | branch => cases ha

/-- **Whoever touches a protected cell owns the lock**: in every state any schedule can reach from a state in
which nobody but the owner is inside and every thread's remaining program is disciplined, a thread whose next
action reads or writes `next_row_generator`, or writes `row_generator`, is the lock's owner — so (with `mutex`)
the protected accesses of two handlers never interleave inside a critical section, whatever the interleaving of
their statements: each critical section acts on the protected cells as one atomic step. -/
theorem protected_access_by_owner (s : Sys) (hm : MutexInv s) (hd : DiscInv s) (sched : List Nat) (t : Nat)
    (th : Thread) (a : Act) (rest : List Act) (ht : (s.run sched).threads[t]? = some th)
    (htodo : th.todo = a :: rest) (ha : a.protected = true) : (s.run sched).owner = some t :=
  (mutex s hm sched t th ht).mp (disciplined_protected (htodo ▸ run_keeps_disc s hd sched t th ht) ha)

/-- … in particular for the four handlers of `bot.py`, in any number and mix, started outside
the lock. -/
theorem handlers_protected_access_by_owner (progs : List (List Act))
    (hp : ∀ p ∈ progs, p ∈ [Generated.onRowGenChange, Generated.onSizeChange, Generated.lookTo, Generated.onLookTo])
    (sched : List Nat) (t : Nat) (th : Thread) (a : Act) (rest : List Act)
    (ht : (({ threads := progs.map (fun p => { todo := p, depth := 0 }), owner := none } : Sys).run sched).threads[t]? = some th)
    (htodo : th.todo = a :: rest) (ha : a.protected = true) :
    (({ threads := progs.map (fun p => { todo := p, depth := 0 }), owner := none } : Sys).run sched).owner = some t := by
  refine protected_access_by_owner _ (init_mutex progs) (fun t' th' ht' => ?_) sched t th a rest ht htodo ha
  -- a thread of the initial system is one of the programs, outside the lock
  obtain ⟨p, hpm, rfl⟩ := List.mem_map.mp (List.mem_of_getElem? ht')
  have := hp p hpm
  simp only [List.mem_cons, List.not_mem_nil, or_false] at this
  rcases this with rfl | rfl | rfl | rfl
  · exact ir_disciplined.1
  · exact ir_disciplined.2.1
  · exact ir_disciplined.2.2.1
  · exact ir_disciplined.2.2.2

/-! #### Fate of a selection, at the granularity mutual exclusion justifies -/

/-- **Row-generator change ∥ size change**: the size handler first updates the tower (not under the
lock), then runs its critical section; the row-generator handler is one critical section.  Whatever
the interleaving of the three pieces, the cells end as in one of the two sequential orders. -/
theorem rowgen_size_serialisable (c : Cells) (g n : Nat) :
    let seq1 := csSize (wrSize n (csRowGen g c))      -- selection first, then the size change
    let seq2 := csRowGen g (csSize (wrSize n c))      -- size change first, then the selection
    csSize (wrSize n (csRowGen g c)) = seq1 ∧
    csSize (csRowGen g (wrSize n c)) = seq1 ∧          -- the selection lands between the two halves
    csRowGen g (csSize (wrSize n c)) = seq2 :=
  -- the middle one: the write of the size and the write of the queued generator commute
  ⟨rfl, rfl, rfl⟩

/-- **Row-generator change ∥ Look To**: both are single critical sections (the gate and the swap of
`_on_look_to` sit under one re-entrant hold), so the only schedules are the two sequential ones. -/
theorem rowgen_lookto_serialisable (c : Cells) (g : Nat) :
    ∀ outcome ∈ [csLookTo (csRowGen g c), csRowGen g (csLookTo c)],
      outcome = csLookTo (csRowGen g c) ∨ outcome = csRowGen g (csLookTo c) := by
  intro o ho; simpa using ho

/-- A selection is never lost or duplicated: after either order it is exactly one of *current*
(applied by this Look To) or *queued* (waiting for the next one) — or was refused by the size check. -/
theorem selection_fate (c : Cells) (g : Nat) :
    ((csLookTo (csRowGen g c)).gen = g ∧ (csLookTo (csRowGen g c)).next = none ∧ fits g c.size = true) ∨
    ((csLookTo (csRowGen g c)).next = some g ∧ (csLookTo (csRowGen g c)).gen = c.gen ∧ fits g c.size = false) := by
  simp only [csLookTo, csRowGen, Option.getD_some]
  by_cases h : fits g c.size = true
  · left; simp [h]
  · right; simp [h]

/-- A queued selection is discarded by a size change iff it no longer fits. -/
theorem discarded_iff (c : Cells) (g n : Nat) :
    (csSize (wrSize n (csRowGen g c))).next = none ↔ fits g n = false := by
  simp only [csSize, csRowGen, wrSize]
  by_cases h : fits g n = true <;> simp [h]

/-! ### (b) Only between touches -/

/-- **A new selection is never applied mid-touch**: no server message other than the call "Look to"
changes which generator is current (Bob and Single only set its flags) … -/
theorem selection_waits_for_look_to (b : Bot) (m : Msg) (hm : m ≠ .call Generated.call_LOOK_TO) :
    (b.onMsg m).1.gen.kind = b.gen.kind := by
  have hr := onMsg_handles b m
  generalize b.onMsg m = p at hr
  induction hr with
  | lookTo c hc => exact absurd (hc ▸ rfl) hm
  | _ => rfl

/-- … nor does any turn of the main loop (rows, method start, reset): -/
theorem turn_keeps_selection (b : Bot) (bell : Nat) (uc : Bool) :
    (b.tickEnd bell uc).1.gen.kind = b.gen.kind := tickEnd_kind b bell uc

/-- … it becomes current **exactly at the next Look To**, which also empties the queue. -/
theorem look_to_applies_queued (b : Bot) (treble : Nat) (rest : Row) (h : b.openingRow = treble :: rest) :
    (b.lookTo).1.gen.kind = (b.nextGen.getD b.gen).kind ∧ b.armLookTo.nextGen = none :=
  ⟨lookTo_fst (P := fun x => x.gen.kind = (b.nextGen.getD b.gen).kind) b (fun e => by rw [h] at e; cases e) rfl, rfl⟩

/-- A row-generator message only ever fills the queue. -/
theorem rowgen_only_queues (b : Bot) (g : Gen) (hs : b.serverMode = true) :
    (b.onMsg (.rowGen (some g))).1.nextGen = some g ∧ (b.onMsg (.rowGen (some g))).1.gen = b.gen ∧
    (b.onMsg (.rowGen none)).1 = b := by
  simp [Bot.onMsg, Tower.apply, Bot.serverMode] at hs ⊢
  simp [hs]

section
variable {K : Type} [Field K] [LinearOrder K] [IsStrictOrderedRing K]
open Generated

/-- **A peal-speed change bends the line without a jump**: the new line passes through the point
(current position in blows, now) of the old one. -/
theorem speed_change_continuous (r : Reg K) (s now newSpeed : K) (hs : r.start = .fin s)
    (hI : r.interval ≠ 0) :
    (r.changePealSpeed newSpeed now).start =
        .fin (now - realTimeToBlowTime (r.line s) now * pealSpeedToBlowInterval newSpeed r.stage) ∧
      (r.changePealSpeed newSpeed now).interval = pealSpeedToBlowInterval newSpeed r.stage ∧
      (now - realTimeToBlowTime (r.line s) now * pealSpeedToBlowInterval newSpeed r.stage) +
        pealSpeedToBlowInterval newSpeed r.stage * realTimeToBlowTime (r.line s) now = now := by
  have hI' : Num.eqb r.interval (Num.ofNat 0) = false := decide_eq_false fun h => hI (h.trans Nat.cast_zero)
  unfold Reg.changePealSpeed
  rw [hI', hs]
  exact ⟨rfl, rfl, by rw [mul_comm, sub_add_cancel]⟩

/-- … and the position itself (how far through the touch, in blows) is the same on both lines at that
instant. -/
theorem speed_change_keeps_position (r : Reg K) (s now newSpeed : K) (hs : r.start = .fin s)
    (hI : r.interval ≠ 0) (hN : pealSpeedToBlowInterval newSpeed r.stage ≠ 0) :
    ∀ s', (r.changePealSpeed newSpeed now).start = .fin s' →
      realTimeToBlowTime ((r.changePealSpeed newSpeed now).line s') now = realTimeToBlowTime (r.line s) now := by
  obtain ⟨h1, h2, -⟩ := speed_change_continuous r s now newSpeed hs hI
  intro s' h
  cases h1.symm.trans h
  show (now - (now - _)) / (r.changePealSpeed newSpeed now).interval = _
  rw [h2, sub_sub_cancel, mul_div_cancel_right₀ _ hN]
end

/-- **Stop Touch**: the flag goes down, the clients are told, and every wait loop is asked to return. -/
theorem stop_touch_law (b : Bot) (hs : b.serverMode = true) :
    (b.onMsg .stopTouch).1.isRinging = false ∧ (b.onMsg .stopTouch).2 = [.setIsRinging false, .rReturn] := by
  have hs' : b.serverId.isSome = true := hs
  simp [Bot.onMsg, Bot.serverMode, hs']

/-- **At most the one strike already due**: once the flag is down the tick loop starts no new turn — the
only strike that can still go out is the one whose turn had begun. -/
theorem no_new_turn_when_stopped {K : Type} [Num K] (w : World K) (wt : K → K) (hpc : w.pc = .ringCheck)
    (hr : w.bot.isRinging = false) :
    (w.mainStep wt).1.pc = .outerTop ∧ (w.mainStep wt).1.bot = w.bot ∧
    (∀ o ∈ (w.mainStep wt).1.obs, o ∈ w.obs ∨ o.out = .setIsRinging false) := by
  simp only [World.mainStep, hpc, hr, Bool.false_eq_true, if_false]
  cases w.bot.serverMode
  · simp only [Bool.false_eq_true, if_false, List.foldl_nil]
    exact ⟨trivial, trivial, fun o ho => Or.inl ho⟩
  · simp only [if_true, List.foldl_cons, List.foldl_nil, applyOut_log _ _ _ (.setIsRinging _) rfl]
    exact ⟨trivial, trivial, fun o ho => (List.mem_cons.mp ho).elim (fun e => .inr (e ▸ rfl)) .inl⟩

/-- **Roll call is answered only when ringing actually starts**: the idle → ringing transition of the
main loop (server mode) emits "is ringing" and the roll-call reply, in that order … -/
theorem roll_call_on_start {K : Type} [Num K] (w : World K) (wt : K → K) (id : Nat) (hpc : w.pc = .idleCheck)
    (hr : w.bot.isRinging = true) (hid : w.bot.serverId = some id) :
    (w.mainStep wt).1.pc = .ringCheck ∧
    ((w.mainStep wt).1.obs.take 2).map (·.out) = [Out.rollCall id, Out.setIsRinging true] := by
  simp only [World.mainStep, hpc, hr, Bool.not_true, Bool.false_eq_true, if_false, hid, List.foldl_cons,
    List.foldl_nil, applyOut_log _ _ _ (.setIsRinging _) rfl, applyOut_log _ _ _ (.rollCall _) rfl]
  exact ⟨trivial, rfl⟩

/-- … and no handler and no turn of the Bot ever emits one. -/
theorem bot_never_roll_calls (b : Bot) (bell : Nat) (uc : Bool) (id : Nat) (v : Bool) :
    Out.rollCall id ∉ (b.tickEnd bell uc).2 ∧ Out.setIsRinging v ∉ (b.tickEnd bell uc).2 := by
  constructor <;> (intro hm; cases tickEnd_turnKind b bell uc _ hm)

section
variable {K : Type} [Num K]

omit [Num K] in
/-- **Look To is activity**: the moment an accepted Look To begins to be handled — on the socket
thread, before it goes to sleep inside `initialise_line` and long before it sets `is_ringing` — the
inactivity clock is restarted … -/
theorem look_to_is_activity (w : World K) (s : Susp K) (wr : WaitR K) :
    (w.lookToBegin s wr).lastActivity = w.now ∧ (w.lookToBegin s wr).now = w.now ∧
    (w.lookToBegin s wr).suspended = some s := ⟨rfl, rfl, rfl⟩

/-- … and likewise when the whole handler runs at once (keep-going rhythm, `--look-to-time` start-up). -/
theorem look_to_is_activity_atomic (wt : K → K) (ct : K) (w : World K) (stage n : Nat) (ut : Bool) :
    (World.applyOut wt ct w (.rInit stage ut n)).lastActivity = w.now := by
  obtain ⟨reg, wait, now, la, tape, md, h, -, -, rfl⟩ := applyOut_eq wt ct w (.rInit stage ut n)
  rw [h]

/-- **Exit law**: the main loop returns only from the idle loop, only in server mode, only when not
ringing, and only after more than `INACTIVITY_EXIT_TIME` (300 s, regenerated from the source) without
activity. -/
theorem exit_law (w : World K) (wt : K → K) (hex : w.exited = false)
    (h : (w.mainStep wt).1.exited = true) :
    w.pc = .idleSlept ∧ w.bot.serverMode = true ∧ w.bot.isRinging = false ∧
    w.lastActivity + Num.ofQ Generated.inactivityExitTime < w.now := by
  obtain ⟨_, -, hs⟩ := mainStep_does wt w
  rcases hs.exited with e | ⟨hpc, hc⟩
  · rw [e, hex] at h; cases h
  · simp only [World.Inactive, Bool.and_eq_true, Bool.not_eq_true', decide_eq_true_eq] at hc
    exact ⟨hpc, hc.1.1, hc.1.2, hc.2⟩

end

/-! ### Stop Touch reaches every phase of a turn (inner sleep, hold-up for a human) -/

section
variable {K : Type} [Num K]

/-- Stop Touch (and Look To) reach the waiting rhythm: `return_to_mainloop()` raises the flag of the
wrapper whatever the main thread is doing. -/
theorem return_request_raises_flag (wt : K → K) (ct : K) (w : World K) (wr : WaitR K)
    (hstub : w.rh.stub = none) (hw : w.rh.wait = some wr) :
    (World.applyOut wt ct w .rReturn).rh.wait = some { wr with shouldReturn := true } := by
  unfold World.applyOut
  simp only [hstub, hw, Option.map_some]

/-- **A request that arrives while the main thread still sleeps towards a human's place is not lost**:
when that sleep ends and the human has not rung, the hold-up loop is entered with the flag still up … -/
theorem return_request_survives_inner_wait (wt : K → K) (w : World K) (wr : WaitR K) (bell : Nat) (hand : Bool)
    (hpc : w.pc = .innerSlept bell true hand) (hstub : w.rh.stub = none) (hw : w.rh.wait = some wr)
    (hexp : (wr.expected hand).contains bell = true) :
    (w.mainStep wt).1.pc = .userPoll bell true hand W0 ∧ (w.mainStep wt).1.rh.wait = some wr := by
  obtain ⟨x, e, -, -, hxw⟩ := mainStep_innerSlept wt w bell true hand hpc
  rw [e, afterInner_polls wt x bell hand W0 false (hxw.trans hw) (by simp [List.contains_iff_mem.mp hexp])]
  exact ⟨rfl, hxw.trans hw⟩

/-- … and the first test of the hold-up loop then ends the turn (`finishTick`: back to the tick loop,
which finds `is_ringing` false, C19 `no_new_turn_when_stopped`) whether or not the human ever rings. -/
theorem return_request_ends_hold_up (wt : K → K) (w : World K) (wr : WaitR K) (bell : Nat) (hand : Bool) (d : K)
    (hpc : w.pc = .userPoll bell true hand d) (hw : w.rh.wait = some wr) (hret : wr.shouldReturn = true) :
    ∃ w1 : World K, w.mainStep wt = w1.finishTick wt bell true ∧ w1.bot = w.bot ∧
      ∃ wr1, w1.rh.wait = some wr1 ∧ wr1.shouldReturn = false :=
  ⟨_, (C09.poll_returns_to_test w wt bell true hand d hpc).trans
      (afterInner_leaves wt w bell hand _ true hw (by simp [hret])), rfl, _, rfl, rfl⟩

/-- The turn that `finishTick` ends does not come back to a wait: the main thread is at the tick
sleep, or has died with the recorded exception. -/
theorem finishTick_leaves_wait (wt : K → K) (w : World K) (bell : Nat) (uc : Bool) :
    (w.finishTick wt bell uc).1.pc = .tickSlept ∨ (w.finishTick wt bell uc).1.pc = .done := by
  fun_cases World.finishTick wt w bell uc
  · exact .inr rfl
  · exact .inl rfl
end

theorem inactivity_is_300s : Generated.inactivityExitTime = (300, 1) := rfl

/-- Spawned by Ringing Room, Wheatley is built with nothing to ring (the place holder: a method has to be
selected first), under the instance id it was given, talking to the socket server on the local port it was given. -/
theorem server_mode_starts_empty (port id : Option Int) :
    (match (Cli.serverMain port id).cfg.source with | .gen g => g.kind == .placeholder | _ => false) = true ∧
    (Cli.serverMain port id).serverId = id ∧
    (∀ p : Int, port = some p → (Cli.serverMain port id).url = "http://127.0.0.1:".toList ++ (toString p).toList) := by
  refine ⟨rfl, rfl, ?_⟩
  intro p hp
  subst hp
  rfl

section Selection
variable {K : Type} [Num K]

/-- The method being rung is of kind `k`, no Look To handler is asleep on the socket thread, and the main thread
is not about to run a spawned Look To. -/
def Ringing (k : GenKind) (w : World K) : Prop :=
  w.bot.gen.kind = k ∧ w.suspended = none ∧ (∀ it t, w.pc ≠ .waitLoaded it (some t))

theorem mainStep_ringing (wt : K → K) (k : GenKind) (w : World K) (h : Ringing k w) : Ringing k (w.mainStep wt).1 := by
  obtain ⟨hk, hs, hp⟩ := h
  obtain ⟨p, hd, hst⟩ := mainStep_does wt w
  refine ⟨?_, hst.suspended.trans hs, fun it t hpc => ?_⟩
  · rw [hst.did.bot]
    cases hd with
    | status => exact hk
    | lookTo hsp => obtain ⟨it, t, hpc⟩ := hsp; exact absurd hpc (hp it t)
    | tick bell uc => exact (turn_keeps_selection w.bot bell uc).trans hk
  · obtain ⟨it', t', hpc'⟩ := hst.spawned ⟨it, t, hpc⟩
    exact hp it' t' hpc'

theorem deliver_ringing (wt : K → K) (k : GenKind) (w : World K) (e : Ev) (hq : C07.NotLookTo e) (h : Ringing k w) :
    Ringing k (World.deliver wt w e) := by
  obtain ⟨hk, hs, hp⟩ := h
  rcases deliver_awake wt w e hs with ⟨rfl, -⟩ | ⟨hs', hpc', hb | ⟨m, rfl, hb⟩⟩
  · exact absurd rfl hq
  · exact ⟨hb ▸ hk, hs', hpc' ▸ hp⟩
  · exact ⟨hb ▸ (selection_waits_for_look_to w.bot m (fun e => by subst e; exact hq rfl)).trans hk, hs', hpc' ▸ hp⟩

/-- **Never mid-touch, however long, whatever else arrives**: whatever is selected, called, set, struck or resized
while Wheatley runs, as long as nobody calls Look To the method being rung stays the method it is - the selection
waits in the queue (`rowgen_only_queues`) and becomes current exactly at Look To (`look_to_applies_queued`).  For
every run of `World.run`, of any length, under any events other than the call "Look to". -/
theorem method_changes_only_at_look_to (wt : K → K) (endTime : K) (k : GenKind) :
    ∀ (fuel : Nat) (w : World K) (events : List (K × Ev)), Ringing k w → (∀ ev ∈ events, C07.NotLookTo ev.2) →
      (World.run wt endTime fuel w events).1.bot.gen.kind = k :=
  fun fuel w events h hq =>
    (WorldInvariant.run ⟨fun _ _ h => h, mainStep_ringing wt k, deliver_ringing wt k⟩ endTime fuel w events hq h).1

end Selection

end Wheatley.C19
