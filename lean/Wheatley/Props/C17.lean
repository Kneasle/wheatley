/-
C17 — tower size vs stage: refuse when too small, add covers when larger.
-/
import Wheatley.Props.C07
namespace Wheatley.C17

/-- What Look To checks: the opening row has exactly the tower's length, and the generator that
will be rung (the queued one if there is one) has a stage between 1 and the tower size. -/
def Gate (b : Bot) : Prop :=
  b.openingRow.length = b.n ∧ (b.nextGen.getD b.gen).stage ≠ 0 ∧ (b.nextGen.getD b.gen).stage ≤ b.n

instance (b : Bot) : Decidable (Gate b) := by unfold Gate; infer_instance

theorem gate_iff (b : Bot) :
    (b.checkStartingRow && b.checkNumberOfBells (b.nextGen.getD b.gen)) = true ↔ Gate b := by
  unfold Gate Bot.checkStartingRow Bot.checkNumberOfBells
  simp only [Bool.and_eq_true, beq_iff_eq, bne_iff_ne, Bool.not_eq_true', decide_eq_false_iff_not, Nat.not_lt]

/-- **Refuse when too small**: if the gate fails, Look To changes nothing and emits nothing. -/
theorem look_to_refused (b : Bot) (h : ¬ Gate b) : b.onLookTo = (b, []) := by
  unfold Bot.onLookTo
  exact if_neg fun hc => h ((gate_iff b).mp hc)

/-- **Ring when it fits**: if the gate holds (and the tower is not empty) Look To starts ringing, the
rhythm is initialised with the *current* tower size, the queued generator becomes current, and the
first row rung is the opening row. -/
theorem look_to_accepted (b : Bot) (h : Gate b) (hn : 0 < b.n) :
    b.onLookTo = b.lookTo ∧ (b.lookTo).1.isRinging = true ∧ (b.lookTo).1.gen = b.nextGen.getD b.gen ∧
    (b.lookTo).1.nextGen = none ∧ (b.lookTo).1.row = b.openingRow ∧
    ∃ ut nu rest, (b.lookTo).2 = Out.rReturn :: Out.rInit b.n ut nu :: rest := by
  have hg : (b.checkStartingRow && b.checkNumberOfBells (b.nextGen.getD b.gen)) = true := (gate_iff b).mpr h
  refine ⟨by unfold Bot.onLookTo; exact if_pos hg, ?_⟩
  rcases lookTo_cases b with ⟨e, _⟩ | ⟨_, _, _, e⟩
  · rw [← h.1, e] at hn
    exact absurd hn (Nat.lt_irrefl 0)
  · rw [e]; exact ⟨rfl, rfl, rfl, rfl, _, _, _, rfl⟩

/-- **Covers in order**: a generated row shorter than the opening row is completed with the opening
row's tail (the surplus bells in order, or the custom start row's own tail). -/
theorem covers_in_order (b : Bot) (g' : Gen) (r : Row) (calls : List String)
    (h1 : b.ringingOpening = false) (h2 : b.ringingRounds = false) (hn : b.gen.next b.hand = .ok g' r calls) :
    (b.generateNextRow).1.row = (if r.length < b.openingRow.length then r ++ b.openingRow.drop r.length else r) := by
  simp [Bot.generateNextRow, h1, h2, hn]

/-- … so the padded row has the opening row's length and its last places are the opening row's. -/
theorem padded_row (r opening : Row) (h : r.length < opening.length) :
    (r ++ opening.drop r.length).length = opening.length ∧
    (r ++ opening.drop r.length).drop r.length = opening.drop r.length := by
  refine ⟨?_, List.drop_left⟩
  rw [List.length_append, List.length_drop]
  exact Nat.add_sub_cancel' (Nat.le_of_lt h)

/-- **Re-evaluated at every size change**: the opening row and rounds are recomputed from the new
size, and a queued generator survives iff it still fits. -/
theorem size_change_recomputes (b : Bot) (op : Row) (h : startingRow b.n b.gen.customStart = some op) :
    (b.onSizeChange).1.openingRow = op ∧ (b.onSizeChange).1.rounds = rounds b.n ∧
    (b.onSizeChange).1.nextGen =
      (match b.nextGen with
       | some g => if g.stage ≠ 0 ∧ g.stage ≤ b.n then some g else none
       | none => none) ∧
    (b.onSizeChange).1.gen = b.gen ∧ (b.onSizeChange).2 = [] := by
  rw [onSizeChange_ok h]
  refine ⟨rfl, rfl, ?_, rfl, rfl⟩
  cases b.nextGen with
  | none => rfl
  | some g => simp [Option.filter]

/-- A real size change (`s_size_change` to a different size) sets every bell at hand, drops the
assignments of removed bells, and then recomputes as above with the new size. -/
theorem size_message (b : Bot) (n : Nat) (h : n ≠ b.n) :
    b.onMsg (.sizeChange n) =
      { b with tower := { b.tower with assigned := b.tower.assigned.filter (fun p => p.1 ≤ n),
                                        bellState := List.replicate n true } }.onSizeChange := by
  have h' : n ≠ b.tower.size := h
  simp [Bot.onMsg, Tower.apply, h, h']

/-- With the default start row the recomputed opening row is rounds on the new size. -/
theorem default_opening (n : Nat) : startingRow n none = some (rounds n) := rfl

/-! Non-vacuity: a 6-bell method in an 8-bell tower passes the gate, in a 5-bell tower it does not. -/
example :
    let g := (mkPlainHunt 6 none).get (by decide)
    let b8 : Bot := { Bot.init g false false true none none with
                      tower := { Tower.empty with bellState := List.replicate 8 true }, openingRow := rounds 8 }
    let b5 : Bot := { b8 with tower := { Tower.empty with bellState := List.replicate 5 true }, openingRow := rounds 5 }
    Gate b8 ∧ ¬ Gate b5 := by decide

section RhythmSize
variable {K : Type} [Num K]

/-- **The rhythm follows the tower size**: Look To re-initialises the line with the size it is given -
stage and blow interval are those of the new tower, whoever leads and whatever was rung before. -/
theorem rhythm_follows_tower_size (r : Reg K) (stage : Nat) :
    (r.resetForTouch stage).stage = stage ∧
    (r.resetForTouch stage).interval = Generated.pealSpeedToBlowInterval r.pealSpeed stage ∧
    ∀ (reg : List (K × K × K) → K × K) (t : K), (r.initialiseLine reg stage true t).stage = stage ∧
      (r.initialiseLine reg stage true t).interval = Generated.pealSpeedToBlowInterval r.pealSpeed stage := by
  refine ⟨rfl, rfl, fun reg t => ?_⟩
  simp [Reg.initialiseLine, Reg.resetForTouch]

end RhythmSize

section Refused
variable {K : Type} [Num K]

/-- The gate of `_on_look_to`, as the code computes it. -/
def gateB (b : Bot) : Bool := b.checkStartingRow && b.checkNumberOfBells (b.nextGen.getD b.gen)

/-- Events that leave the tower's size and the queue alone: everything but global states, size changes and
selections; strikes carry a state of the tower's size `N`.  Look To, Go and every other call are allowed. -/
def KeepsTower (N : Nat) : Ev → Prop
  | .msg (.bellRung st _) => st.length = N
  | .msg (.globalState _) => False
  | .msg (.sizeChange _) => False
  | .msg (.rowGen _) => False
  | _ => True

theorem onMsg_refusing (b : Bot) (m : Msg) (N : Nat) (hk : KeepsTower N (.msg m)) (hr : b.isRinging = false)
    (hn : b.n = N) (hg : gateB b = false) :
    (b.onMsg m).1.isRinging = false ∧ (b.onMsg m).1.n = N ∧ gateB (b.onMsg m).1 = false := by
  have hsee : (b.see m).isRinging = false ∧ (b.see m).n = N ∧ gateB (b.see m) = false := by
    have e : (b.see m).n = b.n := by
      have := b.tower.apply_size m
      cases m with
      | bellRung st who => exact this.trans (hk.trans hn.symm)
      | globalState | sizeChange => exact hk.elim
      | _ => exact this
    refine ⟨hr, e.trans hn, ?_⟩
    unfold gateB Bot.checkStartingRow Bot.checkNumberOfBells at hg ⊢
    rw [e]
    exact hg
  have hr' := onMsg_handles b m
  generalize b.onMsg m = p at hr'
  induction hr' with
  | ignore | strike | badStart => exact hsee
  | resize m hm => rcases hm with ⟨st, rfl⟩ | ⟨n, rfl, -⟩ <;> exact hk.elim
  | lookTo c hc hgate => exact absurd (hg.symm.trans hgate) (by simp)
  | bob | single => exact ⟨hr, hn, by rw [← hg]; unfold gateB; cases b.nextGen <;> rfl⟩
  | select => exact hk.elim
  | stop => exact ⟨rfl, hn, hg⟩
  | _ => exact ⟨hr, hn, hg⟩

def Refusing (N : Nat) (w : World K) : Prop := C07.Idle w ∧ w.bot.n = N ∧ gateB w.bot = false

theorem deliver_refusing (wt : K → K) (N : Nat) (w : World K) (e : Ev) (hk : KeepsTower N e) (h : Refusing N w) :
    Refusing N (World.deliver wt w e) := by
  obtain ⟨⟨hr, hs, hpc⟩, hn, hg⟩ := h
  rcases deliver_awake wt w e hs with ⟨-, hgate⟩ | ⟨hs', hpc', hb | ⟨m, rfl, hb⟩⟩
  · exact absurd (hg.symm.trans hgate) (by simp)
  · exact ⟨⟨hb ▸ hr, hs', hpc' ▸ hpc⟩, hb ▸ hn, hb ▸ hg⟩
  · obtain ⟨h1, h2, h3⟩ := onMsg_refusing w.bot m N hk hr hn hg
    exact ⟨⟨hb ▸ h1, hs', hpc' ▸ hpc⟩, hb ▸ h2, hb ▸ h3⟩

/-- **Too small: nothing is rung, however often Look To is called**: Wheatley is idle and the gate of Look To is
shut (the tower has fewer bells than the method or the start row needs, or more than the start row names).  As long
as the tower's size and the queue stay as they are, any number of Look Tos, Gos and other calls, strikes,
assignments and settings may arrive: for the whole run, of whatever length, Wheatley strikes nothing. -/
theorem refused_look_to_rings_nothing (wt : K → K) (endTime : K) (N : Nat) :
    ∀ (fuel : Nat) (w : World K) (events : List (K × Ev)), Refusing N w → (∀ ev ∈ events, KeepsTower N ev.2) →
      ringsOf (World.run wt endTime fuel w events).1.obs = ringsOf w.obs :=
  fun fuel w events h hq =>
    World.run_silent (fun _ _ h => h)
      (fun w' h =>
        let ⟨hi, ho, hb⟩ := C07.mainStep_idle wt w' h.1
        ⟨⟨hi, by rw [hb]; exact h.2⟩, congrArg ringsOf ho⟩)
      (deliver_refusing wt N) endTime fuel w events hq h

end Refused

end Wheatley.C17
