/-
C20 — Wheatley's picture of the tower always matches the message history.

`Tower.apply` is the model of the `RingingRoomTower` handlers (association lists, filters).  The
specification below says, per bell and per user id, what the *history* implies — "the last relevant
message" — without any data structure.  The refinement theorem holds for every history.
-/
import Wheatley.Lemmas.Assoc
import Wheatley.Model.Page
import Wheatley.Lemmas.Lift
namespace Wheatley.C20

/-- The view after a history of server messages (oldest first), starting from the empty view. -/
def view (hist : List Msg) : Tower := hist.foldl Tower.apply Tower.empty

/-! ### Specification (history most recent first) -/

/-- The strokes of the bells: the state carried by the last strike / global state, or all bells at
hand after a real size change. -/
def strokesSpec : List Msg → List Bool
  | [] => []
  | .bellRung st _ :: _ => st
  | .globalState st :: _ => st
  | .sizeChange n :: older => if n ≠ (strokesSpec older).length then List.replicate n true else strokesSpec older
  | _ :: older => strokesSpec older

/-- Who holds bell `b`: the last assignment of `b`, unless that user left since, or the bell was
removed by a real size change since. -/
def holderSpec : List Msg → Nat → Option Nat
  | [], _ => none
  | .assign b' u :: older, b => if b = b' then (if u = 0 then none else some u) else holderSpec older b
  | .userLeft id :: older, b => if holderSpec older b = some id then none else holderSpec older b
  | .sizeChange n :: older, b =>
    if n ≠ (strokesSpec older).length ∧ n < b then none else holderSpec older b
  | _ :: older, b => holderSpec older b

/-- The name of user `i`: the last announcement of `i` (single, or in a user list). -/
def nameSpec : List Msg → Nat → Option String
  | [], _ => none
  | .userEntered id name :: older, i => if i = id then some name else nameSpec older i
  | .userList users :: older, i =>
    match users.reverse.find? (fun p => p.1 == i) with
    | some p => some p.2
    | none => nameSpec older i
  | _ :: older, i => nameSpec older i

/-- The view `t` is what the history `older` (most recent first) implies. -/
structure Matches (t : Tower) (older : List Msg) : Prop where
  uAssigned : UniqueKeys t.assigned
  uNames : UniqueKeys t.userNames
  strokes : t.bellState = strokesSpec older
  holder : ∀ b, alGet t.assigned b = holderSpec older b
  name : ∀ i, alGet t.userNames i = nameSpec older i

theorem Matches.size {t : Tower} {older : List Msg} (h : Matches t older) : t.size = (strokesSpec older).length :=
  congrArg List.length h.strokes

theorem nameSpec_userList (users : List (Nat × String)) (older : List Msg) (i : Nat) :
    nameSpec (.userList users :: older) i = (alGet users i).or (nameSpec older i) := by
  rw [nameSpec, alGet]
  cases users.reverse.find? _ <;> rfl

theorem step (t : Tower) (older : List Msg) (m : Msg) (h : Matches t older) : Matches (t.apply m) (m :: older) := by
  have hsize := h.size
  obtain ⟨ua, un, hs, hh, hn⟩ := h
  cases m with
  | bellRung _ _ | globalState _ => exact ⟨ua, un, rfl, hh, hn⟩
  | call _ | setting _ | rowGen _ | stopTouch => exact ⟨ua, un, hs, hh, hn⟩
  | userEntered id name =>
    exact ⟨ua, uniqueKeys_alSet _ _ _ un, hs, hh, fun i => (alGet_alSet _ un id i name).trans (by rw [hn i]; rfl)⟩
  | userList users =>
    refine ⟨ua, uniqueKeys_foldl_alSet users _ un, hs, hh, fun i => ?_⟩
    rw [nameSpec_userList, ← hn i, ← alGet_append]
    exact alGet_foldl_alSet users _ un i
  | userLeft id =>
    refine ⟨uniqueKeys_filter _ _ ua, un, hs, fun b => (alGet_filter _ ua _ b).trans ?_, hn⟩
    rw [holderSpec, ← hh b]
    cases alGet t.assigned b <;> simp
  | assign bell user =>
    -- for `0` and for `u + 1` both the handler's `user == 0` and the specification's `u = 0` compute
    cases user with
    | zero =>
      refine ⟨uniqueKeys_filter _ _ ua, un, hs, fun b => (alGet_filter _ ua _ b).trans ?_, hn⟩
      rw [holderSpec, ← hh b]
      cases alGet t.assigned b <;> simp
    | succ u =>
      exact ⟨uniqueKeys_alSet _ _ _ ua, un, hs, fun b => (alGet_alSet _ ua bell b _).trans (by rw [hh b]; rfl), hn⟩
  | sizeChange n =>
    by_cases hne : n = t.size
    · subst hne
      rw [Tower.apply, if_neg (by simp)]
      exact ⟨ua, un, hs.trans (if_neg fun h => h hsize).symm, fun b => (hh b).trans (if_neg fun h => h.1 hsize).symm, hn⟩
    · have hne' : n ≠ (strokesSpec older).length := hsize ▸ hne
      rw [Tower.apply, if_pos (by simpa using hne)]
      refine ⟨uniqueKeys_filter _ _ ua, un, (if_pos hne').symm, fun b => (alGet_filter _ ua _ b).trans ?_, hn⟩
      rw [holderSpec, ← hh b]
      cases alGet t.assigned b <;> simp [hne', ← Nat.not_le]

/-- **Refinement**: after *any* history of server messages the view is exactly what the history
implies — size and strokes, who holds which bell, and every user's name. -/
theorem tower_refines_spec (hist : List Msg) : Matches (view hist) hist.reverse := by
  obtain ⟨older, rfl⟩ : ∃ older, hist = older.reverse := ⟨hist.reverse, hist.reverse_reverse.symm⟩
  rw [List.reverse_reverse]
  induction older with
  | nil => exact ⟨List.nodup_nil, List.nodup_nil, rfl, fun _ => rfl, fun _ => rfl⟩
  | cons m older ih =>
    rw [List.reverse_cons, view, List.foldl_append]
    exact step _ older m ih

theorem size_spec (hist : List Msg) : (view hist).size = (strokesSpec hist.reverse).length :=
  (tower_refines_spec hist).size

/-- **Whose bell**: "is bell `b` assigned to `name`" computed on the view equals the same question
asked of the history. -/
theorem is_assigned_spec (hist : List Msg) (b : Nat) (name : Option String) :
    (view hist).isAssignedTo b name = true ↔
      ((holderSpec hist.reverse b = none ∧ name = none) ∨
       (∃ id, holderSpec hist.reverse b = some id ∧ nameSpec hist.reverse id = name)) := by
  have h := tower_refines_spec hist
  rw [Tower.isAssignedTo, h.holder b]
  cases holderSpec hist.reverse b with
  | none => simp
  | some id => simp [h.name id]

/-- **The Bot's callbacks never disturb the view**: after any message the Bot's tower is exactly the
handler's update of the tower it had — so `tower_refines_spec` describes the tower the Bot consults. -/
theorem bot_keeps_view (b : Bot) (m : Msg) : (b.onMsg m).1.tower = b.tower.apply m := by
  have hr := onMsg_handles b m
  generalize b.onMsg m = p at hr
  induction hr <;> rfl

open Wheatley.Page in
/-- **Extraction round trip**: if the first occurrence of `server_ip` in the page is the template line
`server_ip: "<url>"` and the URL contains no quote, the extracted socket-server address is that URL. -/
theorem extract_roundtrip (pre url post : List Char)
    (hfirst : findSub marker (pre ++ "server_ip: \"".toList ++ url ++ ['"'] ++ post) 0 = some pre.length)
    (hq : '"' ∉ url) :
    extractUrl (pre ++ "server_ip: \"".toList ++ url ++ ['"'] ++ post) = some url := by
  have hdrop : (pre ++ "server_ip: \"".toList ++ url ++ ['"'] ++ post).drop (pre.length + markerLen) =
      url ++ '"' :: post := by
    rw [List.append_assoc, List.append_assoc]
    exact List.drop_left' (by simp [markerLen])
  have htake : (url ++ '"' :: post).takeWhile (· != '"') = url := by
    rw [List.takeWhile_append_of_pos fun c hc => bne_iff_ne.mpr fun (e : c = '"') => hq (e ▸ hc),
      List.takeWhile_cons_of_neg (by simp), List.append_nil]
  rw [extractUrl, hfirst]
  simp only [hdrop, htake]
  exact if_pos (by simp)

/-- No marker, no URL: the tower is reported as not found. -/
theorem extract_fails_without_marker (html : List Char) (h : Page.findSub Page.marker html 0 = none) :
    Page.extractUrl html = none := by
  simp [Page.extractUrl, h]

/-- **Start-up**: the first things sent after connecting are `c_join` and then
`c_request_global_state`, before anything else happens. -/
theorem startup_emissions {K : Type} [Num K] (now : K) (bot : Bot) (rh : Rh K) (tape : List (K × K)) (lt : Option K) :
    ((World.init now bot rh tape lt).obs.reverse.map (·.out)) = [Out.join, Out.requestState] := rfl

section System
variable {K : Type} [Num K]

/-- The messages among the events (a woken Look To handler is not a message). -/
def msgsOf (events : List (K × Ev)) : List Msg :=
  events.filterMap (fun ev => match ev.2 with | .msg m => some m | .resume => none)

theorem msgsOf_append (a b : List (K × Ev)) : msgsOf (a ++ b) = msgsOf a ++ msgsOf b := by
  unfold msgsOf; exact List.filterMap_append

/-- Nothing the Bot does on its own - `tick`, `start_next_row`, the rest of a Look To - touches the view.  No event is
admitted: what the handlers do to the view is `deliver_tower`'s to say. -/
theorem keepsView (t : Tower) : BotInvariant (fun b => b.tower = t) (fun _ => False) :=
  { arm := fun b h => by rw [arm_start]; exact h
    tick := fun b bell uc h => by obtain ⟨c, p, g, cs, r, e, -⟩ := tickEnd_frame b bell uc; rw [e]; exact h
    msg := fun _ _ he _ => he.elim }

theorem mainStep_tower (wt : K → K) (w : World K) : (w.mainStep wt).1.bot.tower = w.bot.tower :=
  ((keepsView w.bot.tower).world wt).main w rfl

theorem deliver_tower (wt : K → K) (w : World K) (e : Ev) :
    (World.deliver wt w e).bot.tower = (match e with | .msg m => w.bot.tower.apply m | .resume => w.bot.tower) := by
  obtain ⟨p, hp, hd, -⟩ := deliver_does wt w e
  rw [hd.bot]
  cases hp with
  | nothing | wake | sleep => rfl
  | msg m => exact bot_keeps_view w.bot m

/-- **The view is the fold of the history, in every state of every run.**  Whatever the main thread is doing and
however far the run has got (`fuel`), the Bot's picture of the tower is exactly what `RingingRoomTower`'s handlers
make of the messages delivered so far - a prefix of the event list, in order - starting from the picture it had:
no step of the main thread, no callback of the Bot, no Look To in progress ever alters, delays or drops an update. -/
theorem view_is_the_fold_of_the_history (wt : K → K) (endTime : K) :
    ∀ (fuel : Nat) (w : World K) (events : List (K × Ev)),
      ∃ k, (World.run wt endTime fuel w events).1.bot.tower =
        (msgsOf (events.take k)).foldl Tower.apply w.bot.tower := by
  intro fuel w events
  -- kept throughout: the events split into those delivered, of which the view is the fold, and those still to come
  obtain ⟨rest, pre, he, ht⟩ := World.run_keeps_pending
    (J := fun w' rest => ∃ pre, events = pre ++ rest ∧ w'.bot.tower = (msgsOf pre).foldl Tower.apply w.bot.tower)
    (fun _ _ _ h => h) (fun w' _ ⟨pre, he, ht⟩ => ⟨pre, he, (mainStep_tower wt w').trans ht⟩)
    (fun w' ev evs ⟨pre, he, ht⟩ => ⟨pre ++ [ev], by rw [he, List.append_assoc]; rfl, by
      rw [deliver_tower, msgsOf_append, List.foldl_append, ← ht]
      obtain ⟨t, e⟩ := ev
      cases e <;> rfl⟩)
    endTime fuel w events ⟨[], rfl, rfl⟩
  exact ⟨pre.length, by rw [ht, he, List.take_left']; rfl⟩

/-- ... so, started from the empty view, it is `view` of the messages delivered so far, and everything
`tower_refines_spec` says of `view` - size, strokes, holders, names - holds of the tower the Bot consults at that
moment. -/
theorem view_matches_spec_throughout (wt : K → K) (endTime : K) (fuel : Nat) (w : World K) (events : List (K × Ev))
    (h0 : w.bot.tower = Tower.empty) :
    ∃ k, Matches (World.run wt endTime fuel w events).1.bot.tower (msgsOf (events.take k)).reverse := by
  obtain ⟨k, hk⟩ := view_is_the_fold_of_the_history wt endTime fuel w events
  refine ⟨k, ?_⟩
  rw [hk, h0]
  exact tower_refines_spec _

end System

/-! Non-vacuity: a user is announced, takes bell 3, the tower shrinks to 2 bells. -/
example :
    let hist := [Msg.globalState [true, true, true, true], .userEntered 7 "Alice", .assign 3 7, .sizeChange 2]
    holderSpec hist.reverse 3 = none ∧ holderSpec (hist.dropLast).reverse 3 = some 7 ∧
    (view hist).isAssignedTo 3 none = true ∧ (view hist.dropLast).isAssignedTo 3 (some "Alice") = true := by
  decide

end Wheatley.C20
