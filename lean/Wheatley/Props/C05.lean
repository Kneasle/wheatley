/-
C05 — every touch starts afresh, whatever happened before.
-/
import Wheatley.Lemmas.FreshTouch
namespace Wheatley.C05

/-- `reset()` yields the freshly constructed generator, from **every** state (reachable or not):
flags, position, current row and the partly generated multi-change call are all forgotten. -/
theorem reset_is_init (g : Gen) : g.reset = Gen.init g.kind g.customStart g.startRow :=
  Gen.reset_eq_init g

/-- Whatever the first touch did (`ops₁`: any calls, any number of rows, stopping anywhere, e.g. in
the middle of a multi-change Single), the rows of the touch that follows the reset are exactly the
rows a freshly constructed generator produces for the same operations `ops₂`. -/
theorem second_touch_fresh (kind : GenKind) (cs : Option Row) (sr : Row) (ops₁ ops₂ : List GenOp) :
    (((Gen.init kind cs sr).runOps ops₁).1.reset.runOps ops₂).2 =
      ((Gen.init kind cs sr).runOps ops₂).2 := by
  -- `reset` reads the configuration only, and no operation changes that
  have h := Gen.runOps_cfg ops₁ (Gen.init kind cs sr)
  rw [Gen.reset_eq_init, Gen.cfg_kind h, Gen.cfg_customStart h, Gen.cfg_startRow h]
  rfl

/-- The same from an arbitrary (even unreachable) state with the same configuration. -/
theorem touch_after_reset_fresh (g : Gen) (ops : List GenOp) :
    (g.reset.runOps ops).2 = ((Gen.init g.kind g.customStart g.startRow).runOps ops).2 := by
  rw [reset_is_init]

/-- **Every start of the method resets the generator** — the first Go, a second Go after That's all or
Rounds, an automatic up-down-in start: whenever the control machine starts the method at a row
boundary, the row is generated from `reset` of the current generator, i.e. (by `reset_is_init`) from a
freshly constructed one. -/
theorem method_start_resets (b : Bot) (f : Bool) (c : Ctl) (h : ctlStep b.ctl (b.ctlIn f) = .ok c true) :
    b.startNextRow f =
      Bot.snrFinish ((b.snrPrep.resetGen).withCtl c)
        (if !(b.checkNumberOfBells b.gen) then b.makeCalls ["Stand"] else []) ∧
    (b.snrPrep.resetGen).gen = Gen.init b.gen.kind b.gen.customStart b.gen.startRow := by
  constructor
  · unfold Bot.startNextRow
    rw [h]
    rfl
  · rw [snrPrep_eq]; rfl

/-! Non-vacuity / regression witness: Grandsire Triples, 12 rows, Single, 1 row (the 2-change Single
`3.123` is now half generated), reset.  The next touch starts with the plain first change `3`. -/
example : ∃ g, mkGrandsire 7 none = some g ∧
    let ops₁ := (List.range 12).map (fun i => GenOp.next (i % 2 == 0)) ++ [.single, .next true]
    (g.runOps ops₁).1.callPN ≠ [] ∧
    evRows ((g.runOps ops₁).1.reset.runOps [.next true]).2 = [[2, 1, 3, 5, 4, 7, 6]] :=
  ⟨grandsireTriples, mkGrandsire_7, by decide +kernel⟩

/-- **The known finding, as a theorem about the model of `start_next_row`** (`C05-pending-thats-all-cancels-go`): when
the method is due to start at a row end at which a That's all countdown has reached zero - the That's all was called
before the start, in rows that were not rounds - the control state that results rings rounds: the start is cancelled
by a call made before it.  (The countdown can only be pending there when the rows before the start were not rounds:
on rounds it is absorbed at the next row end.  The real code's witness is in `known_findings.json`.) -/
theorem pending_thats_all_cancels_start (c : Ctl) (i : CtlIn) (hs : startsNow c = true) (h0 : c.rowsLeft = some 0) :
    (ctlNext c i).ringingRounds = true ∧ (ctlNext c i).ringingOpening = false ∧ (ctlNext c i).rowsLeft = none := by
  -- `toRounds` of `ctlNext` holds: it decides `ringingRounds` and `rowsLeft`; the start decides `ringingOpening`
  have ht : (c.rowsLeft == some 0 || (i.justRounds && c.rowsLeft.isSome)) = true := by rw [h0]; rfl
  exact ⟨if_pos ht, if_pos hs, if_pos ht⟩

section System
open FreshTouch MethodRows
variable {K : Type} [Num K]

/-- A Bot that is not ringing satisfies the invariant whatever its generator holds - a pending Bob, half of a
multi-change Single, any position, any row, even a state no run could produce. -/
theorem idle_is_fresh (b : Bot) (h : b.isRinging = false) : Fresh b := by
  intro hm; rw [hm.1] at h; cases h

/-- **Every touch starts afresh - in every run.**  Start from any world whose Bot is not ringing, its generator in
*any* state.  Then in every state of every run - any events at any times: Look To, Go, Bobs and Singles before,
during and after the rounds, That's all, Rounds, Stand, Stop Touch, selections, settings, size changes, as many
touches as you like - whenever the method is being rung the generator is in a state that a freshly constructed
generator reaches by the row requests, Bobs and Singles made of it alone.  Nothing of what was rung, called or left
half-finished before the method started is in it. -/
theorem every_touch_starts_afresh (wt : K → K) (endTime : K) (fuel : Nat) (w : World K) (events : List (K × Ev))
    (h : Fresh w.bot) : Fresh (World.run wt endTime fuel w events).1.bot :=
  FreshTouch.botInvariant.run wt endTime fuel w events (fun _ _ => trivial) h

/-- The same spelled out (`Reach.ops`): from a world whose Bot is not ringing, whenever the method is being rung the
generator is a freshly constructed one to which row requests, Bobs and Singles have been applied - no `reset`, nothing
inherited. -/
theorem method_generator_is_a_fresh_one (wt : K → K) (endTime : K) (fuel : Nat) (w : World K)
    (events : List (K × Ev)) (hidle : w.bot.isRinging = false)
    (hm : InMethod (World.run wt endTime fuel w events).1.bot) :
    ∃ k cs sr ops, (∀ op ∈ ops, op ≠ GenOp.reset) ∧
      (World.run wt endTime fuel w events).1.bot.gen = applyAll (Gen.init k cs sr) ops :=
  (every_touch_starts_afresh wt endTime fuel w events (idle_is_fresh w.bot hidle) hm).ops

/-- Non-vacuity: a Bot in the method whose generator is a freshly constructed one is `Fresh`. -/
example : ∃ b : Bot, InMethod b ∧ Fresh b := by
  refine ⟨{ Bot.init (Gen.init (.plainHunt 4) none [1, 2, 3, 4]) false false true none none with
              isRinging := true, ringingOpening := false, ringingRounds := false }, ⟨rfl, rfl, rfl⟩, ?_⟩
  intro _
  exact Reach.init _ _ _

end System

end Wheatley.C05
