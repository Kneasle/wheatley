/-
C07 — stop discipline: That's all, Rounds, Stand, stop-at-rounds; bells left at hand.
-/
import Wheatley.Props.C06
import Wheatley.Lemmas.Handlers
namespace Wheatley.C07
open Wheatley.C06

/-- **Stand** (or stop-at-rounds): with the stand flag up at a boundary, ringing stops iff the coming
row would be a handstroke; otherwise the flag stays up and everything else goes on. -/
theorem stand_law (c : Ctl) (i : CtlIn) (h : c.shouldStand = true) :
    (handOf (nextRowNumber c i) = true →
        (ctlNext c i).isRinging = false ∧ (ctlNext c i).shouldStand = false) ∧
    (handOf (nextRowNumber c i) = false →
        (ctlNext c i).isRinging = c.isRinging ∧ (ctlNext c i).shouldStand = true) := by
  unfold handOf ctlNext
  constructor <;> intro hp <;> simp [h, hp]

/-- **Ringing only ever stops at a whole-pull boundary**: if a boundary turns `isRinging` off, the row
that would have come next is a handstroke — so every bell has been struck an even number of times
since row 0. -/
theorem stops_only_before_handstroke (c : Ctl) (i : CtlIn) (h1 : c.isRinging = true)
    (h2 : (ctlNext c i).isRinging = false) : handOf (ctlNext c i).rowNumber = true := by
  unfold handOf
  simp only [ctlNext] at h2 ⊢
  by_cases hp : (nextRowNumber c i % 2 == 0) = true
  · exact hp
  · simp [hp, h1] at h2

/-- … and it only stops because a stand was requested (Stand next, or stop-at-rounds seeing rounds
after the opening rows). -/
theorem stops_only_on_request (c : Ctl) (i : CtlIn) (h1 : c.isRinging = true)
    (h2 : (ctlNext c i).isRinging = false) :
    c.shouldStand = true ∨ (i.stopAtRounds = true ∧ i.justRounds = true ∧ c.ringingOpening = false) := by
  simp only [ctlNext] at h2
  by_cases hs : c.shouldStand = true
  · left; exact hs
  · right
    by_cases hc : (i.stopAtRounds && i.justRounds && !c.ringingOpening) = true
    · simp at hc; exact ⟨hc.1.1, hc.1.2, hc.2⟩
    · simp [hc, hs, h1] at h2

/-- **stop-at-rounds**: once rounds has been rung outside the opening rows the stand flag goes up
(and `stand_law` applies from there). -/
theorem stop_at_rounds_law (c : Ctl) (i : CtlIn) (h1 : i.stopAtRounds = true) (h2 : i.justRounds = true)
    (h3 : c.ringingOpening = false) :
    (handOf (nextRowNumber c i) = true → (ctlNext c i).isRinging = false) ∧
    (handOf (nextRowNumber c i) = false → (ctlNext c i).shouldStand = true) := by
  unfold handOf ctlNext
  constructor <;> intro hp <;> simp [h1, h2, h3, hp]

/-- **That's all** sets a one-row countdown … -/
theorem thats_all_sets (b : Bot) :
    (b.onCall Generated.call_THATS_ALL).1.ctl = { b.ctl with rowsLeft := some 1 } := by
  simp [Bot.onCall, Generated.call_THATS_ALL, Generated.call_LOOK_TO, Generated.call_GO, Generated.call_BOB,
    Generated.call_SINGLE, Bot.ctl]

/-- … so, called during a method row that is not rounds, the next boundary keeps the method going
for one more row and the one after switches to rounds; -/
theorem thats_all_one_more_row (c : Ctl) (i j : CtlIn) (h : c.rowsLeft = some 1) (hr : i.justRounds = false)
    (hs : startsNow c = false) :
    (ctlNext c i).ringingRounds = c.ringingRounds ∧ (ctlNext c i).rowsLeft = some 0 ∧
    (ctlNext (ctlNext c i) j).rowsLeft = none ∧
    (startsNow (ctlNext c i) = false → (ctlNext (ctlNext c i) j).ringingRounds = true) := by
  unfold ctlNext
  simp [h, hr, hs]

/-- … and called while the row in progress already is rounds, rounds follows at once. -/
theorem thats_all_in_rounds (c : Ctl) (i : CtlIn) (h : c.rowsLeft = some 1) (hr : i.justRounds = true) :
    (ctlNext c i).ringingRounds = true ∧ (ctlNext c i).rowsLeft = none := by
  unfold ctlNext
  simp [h, hr]

/-- Rounds then goes on until told otherwise: with no That's-all countdown and no start armed the
flags do not change. -/
theorem flags_persist (c : Ctl) (i : CtlIn) (h1 : c.rowsLeft = none) (h2 : c.roundsLeft = none) :
    (ctlNext c i).ringingRounds = c.ringingRounds ∧ (ctlNext c i).ringingOpening = c.ringingOpening ∧
    (ctlNext c i).rowsLeft = none ∧ (ctlNext c i).roundsLeft = none := by
  unfold ctlNext startsNow
  simp [h1, h2]

/-- In rounds mode (opening flag down) the row rung is rounds on the tower's bells. -/
theorem rounds_row_rung (b : Bot) (h1 : b.ringingOpening = false) (h2 : b.ringingRounds = true) :
    (b.generateNextRow).1.row = b.rounds := (generateNextRow_row b).2 h1 h2

/-- **Rounds** puts the opening flag up: from the next row the opening row is rung (`opening_row_rung`)
until a start is armed. -/
theorem rounds_call_law (b : Bot) :
    (b.onCall Generated.call_ROUNDS).1.ctl = { b.ctl with ringingOpening := true } := by
  simp [Bot.onCall, Generated.call_ROUNDS, Generated.call_THATS_ALL, Generated.call_LOOK_TO, Generated.call_GO,
    Generated.call_BOB, Generated.call_SINGLE, Bot.ctl]

/-- **Stand next** puts the stand flag up and changes nothing else. -/
theorem stand_call_law (b : Bot) :
    (b.onCall Generated.call_STAND).1.ctl = { b.ctl with shouldStand := true } := by
  simp [Bot.onCall, Generated.call_STAND, Generated.call_ROUNDS, Generated.call_THATS_ALL, Generated.call_LOOK_TO,
    Generated.call_GO, Generated.call_BOB, Generated.call_SINGLE, Bot.ctl]

/-- Once stopped, a boundary cannot restart ringing … -/
theorem stopped_stays_stopped (c : Ctl) (i : CtlIn) (h : c.isRinging = false) :
    (ctlNext c i).isRinging = false :=
  show (if _ then false else c.isRinging) = false from ite_cases (P := (· = false)) rfl h

/-- … and a stopped Bot produces no row, no strike and no call at a boundary (the early return). -/
theorem silent_when_stopped (b : Bot) (o : List Out) (h : b.isRinging = false) :
    Bot.snrFinish b o = (b, o) := by
  simp [Bot.snrFinish, h]

/-- **Nothing more until the next Look To**: the only server message that can turn `isRinging` on is
the call "Look to". -/
theorem only_look_to_starts (b : Bot) (m : Msg) (h : b.isRinging = false)
    (hm : m ≠ .call Generated.call_LOOK_TO) : (b.onMsg m).1.isRinging = false := by
  have hr := onMsg_handles b m
  generalize b.onMsg m = p at hr
  induction hr with
  | lookTo c hc => exact absurd (hc ▸ rfl) hm
  | stop => rfl
  | _ => exact h

/-! Non-vacuity: Stand during row 7 (backstroke) stops after row 7 (8 rows, even); during row 6 it
stops after row 7 as well. -/
example :
    let c : Ctl := { isRinging := true, ringingRounds := false, ringingOpening := false, roundsLeft := none,
                     rowsLeft := none, shouldStand := true, rowNumber := 7 }
    let i : CtlIn := { isFirst := false, justRounds := false, stopAtRounds := false, startHand := true, fits := true }
    (ctlNext c i).isRinging = false ∧ (ctlNext { c with rowNumber := 6 } i).isRinging = true ∧
    (ctlNext (ctlNext { c with rowNumber := 6 } i) i).isRinging = false := by decide

/-- **A switch is not a call**: no setting (handbell style, up-down-in, calling on / off, or anything passed
on to the rhythm) touches the stand flag, the ringing flags or the counters - in particular switching
handbell style off does not cancel a Stand next. -/
theorem setting_keeps_stand (b : Bot) (key : String) (v : SVal) :
    (b.onSetting key v).1.shouldStand = b.shouldStand ∧ (b.onSetting key v).1.isRinging = b.isRinging ∧
    (b.onSetting key v).1.rowsLeftBeforeRounds = b.rowsLeftBeforeRounds ∧
    (b.onSetting key v).1.roundsLeft = b.roundsLeft ∧ (b.onSetting key v).1.ringingRounds = b.ringingRounds ∧
    (b.onSetting key v).1.ringingOpening = b.ringingOpening := by
  obtain ⟨u, s, c, e⟩ := (onSetting_frame b key v).1
  rw [e]
  exact ⟨rfl, rfl, rfl, rfl, rfl, rfl⟩

/-- Stop-at-rounds is on exactly when `-s` or `-H` was given: handbell style is both switches. -/
theorem cli_stop_at_rounds (c : Parse.Chars) (os : List Cli.Opt) (u : Option (List Char × List Char)) (cfg : Cli.Cfg)
    (h : Cli.consoleMain c os u = .built cfg) :
    cfg.sar = (decide (Cli.Opt.sar ∈ os) || decide (Cli.Opt.handbell ∈ os)) :=
  (Cli.main_builds c os u cfg h).sar

section UntilLookTo
variable {K : Type} [Num K]

/-- Wheatley is not ringing and the main thread is in (or on its way into) the idle loop, or has ended; no Look To
handler is asleep on the socket thread. -/
def Idle (w : World K) : Prop :=
  w.bot.isRinging = false ∧ w.suspended = none ∧
  (w.pc = .outerTop ∨ w.pc = .idleCheck ∨ w.pc = .idleSlept ∨ w.pc = .done ∨ ∃ it, w.pc = .waitLoaded it none)

def NotLookTo : Ev → Prop
  | .msg (.call c) => c ≠ Generated.call_LOOK_TO
  | _ => True

theorem deliver_idle (wt : K → K) (w : World K) (e : Ev) (hq : NotLookTo e) (h : Idle w) :
    Idle (World.deliver wt w e) := by
  obtain ⟨hr, hs, hpc⟩ := h
  rcases deliver_awake wt w e hs with ⟨rfl, -⟩ | ⟨hs', hpc', hb | ⟨m, rfl, hb⟩⟩
  · exact absurd rfl hq
  · exact ⟨hb ▸ hr, hs', hpc' ▸ hpc⟩
  · exact ⟨hb ▸ only_look_to_starts w.bot m hr (fun e => by subst e; exact hq rfl), hs', hpc' ▸ hpc⟩

theorem mainStep_idle (wt : K → K) (w : World K) (h : Idle w) :
    Idle (w.mainStep wt).1 ∧ (w.mainStep wt).1.obs = w.obs ∧ (w.mainStep wt).1.bot = w.bot := by
  obtain ⟨hr, hs, hpc⟩ := h
  have e := mainStep_fst wt w
  -- the goal as a named predicate of the world, for `ite_cases` to find its motive
  let P : World K → Prop := fun x => Idle x ∧ x.obs = w.obs ∧ x.bot = w.bot
  show P _
  rcases hpc with hp | hp | hp | hp | ⟨it, hp⟩ <;> simp only [hp] at e <;> rw [e]
  · -- `outerTop`
    exact ⟨⟨hr, hs, Or.inr (Or.inl rfl)⟩, rfl, rfl⟩
  · -- `idleCheck`
    rw [if_pos (by simp [hr])]
    exact ⟨⟨hr, hs, Or.inr (Or.inr (Or.inl rfl))⟩, rfl, rfl⟩
  · -- `idleSlept`
    refine ite_cases ?_ ?_
    · exact ⟨⟨hr, hs, Or.inr (Or.inr (Or.inr (Or.inl rfl)))⟩, rfl, rfl⟩
    · exact ⟨⟨hr, hs, Or.inr (Or.inl rfl)⟩, rfl, rfl⟩
  · -- `done`
    exact ⟨⟨hr, hs, Or.inr (Or.inr (Or.inr (Or.inl hp)))⟩, rfl, rfl⟩
  · -- `waitLoaded it none`
    refine ite_cases (ite_cases ?_ ?_) ?_
    · exact ⟨⟨hr, hs, Or.inl rfl⟩, rfl, rfl⟩
    · exact ⟨⟨hr, hs, Or.inr (Or.inr (Or.inr (Or.inr ⟨it + 1, rfl⟩)))⟩, rfl, rfl⟩
    · exact ⟨⟨hr, hs, Or.inr (Or.inr (Or.inr (Or.inl rfl)))⟩, rfl, rfl⟩

/-- **Nothing more until the next Look To, however long, whatever else arrives**: Wheatley is not ringing (it has
stood, or never started).  If none of the events still to come is the call "Look to" - they may be anything else:
Go, Bob, That's all, strikes of any bell, assignments, settings, selections, size changes, Stop Touch - then for the
whole rest of the run, of whatever length, it strikes nothing. -/
theorem silent_until_look_to (wt : K → K) (endTime : K) :
    ∀ (fuel : Nat) (w : World K) (events : List (K × Ev)), Idle w → (∀ ev ∈ events, NotLookTo ev.2) →
      ringsOf (World.run wt endTime fuel w events).1.obs = ringsOf w.obs :=
  fun fuel w events h hq =>
    World.run_silent (fun _ _ h => h)
      (fun w' h => ⟨(mainStep_idle wt w' h).1, congrArg ringsOf (mainStep_idle wt w' h).2.1⟩)
      (deliver_idle wt) endTime fuel w events hq h

/-- In particular: from the moment it is launched (not spawned by a Look To), Wheatley strikes nothing before the
first Look To. -/
theorem nothing_before_the_first_look_to (wt : K → K) (endTime now : K) (g : Gen) (u s c : Bool)
    (n : Option String) (id : Option Nat) (rh : Rh K) (tape : List (K × K)) (fuel : Nat) (events : List (K × Ev))
    (hq : ∀ ev ∈ events, NotLookTo ev.2) :
    ringsOf (World.run wt endTime fuel (World.init now (Bot.init g u s c n id) rh tape none) events).1.obs = [] :=
  (silent_until_look_to wt endTime fuel _ events ⟨rfl, rfl, Or.inr (Or.inr (Or.inr (Or.inr ⟨0, rfl⟩)))⟩ hq).trans rfl

end UntilLookTo

end Wheatley.C07
