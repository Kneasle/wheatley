/-
C06 — start discipline: rounds until Go, method starts on the right stroke.

`ctlStep` / `ctlNext` are the control flow of `start_next_row`; `startNextRow_ctl` (Lemmas/Bot)
says the model of the code moves its flags and counters exactly so.  "Row `k` is in progress"
means `rowNumber = k`; a row boundary is one `ctlStep`.
-/
import Wheatley.Lemmas.Cli
import Wheatley.Lemmas.MethodRows
namespace Wheatley.C06

/-- The stroke of row `k`: `true` = handstroke. -/
def handOf (k : Nat) : Bool := k % 2 == 0

/-- What `_on_go` writes into the counter. -/
def goCounter (rowNumber : Nat) (startHand : Bool) : Nat := if handOf rowNumber == startHand then 1 else 0

/-- `_on_go()` while rounds / the opening row is being rung arms the counter from the parity of the
row in progress; nothing else changes. -/
theorem go_arms_counter (b : Bot) (h : b.ringingRounds = true ∨ b.ringingOpening = true) :
    (b.onGo).1.ctl = { b.ctl with roundsLeft := some (goCounter b.rowNumber b.gen.startHand) } ∧
    (b.onGo).1.gen = b.gen := by
  unfold Bot.onGo
  have : (b.ringingRounds || b.ringingOpening) = true := by rcases h with h | h <;> simp [h]
  rw [if_pos this]
  exact ⟨rfl, rfl⟩

/-- **A Go while the method is being rung changes nothing.** -/
theorem go_during_method_noop (b : Bot) (h1 : b.ringingRounds = false) (h2 : b.ringingOpening = false) :
    b.onGo = (b, []) := by
  simp [Bot.onGo, h1, h2]

/-- Every boundary numbers the coming row: 0 after Look To, one more otherwise — so rows alternate
strokes beginning at handstroke. -/
theorem row_numbers (c : Ctl) (i : CtlIn) :
    (ctlNext c i).rowNumber = if i.isFirst then 0 else c.rowNumber + 1 := rfl

theorem ctlStep_not_due {c : Ctl} (i : CtlIn) (hs : startsNow c = false) :
    ctlStep c i = .ok (ctlNext c i) false ∧ (ctlNext c i).ringingOpening = c.ringingOpening := by
  unfold ctlStep assertFails
  rw [hs]
  exact ⟨rfl, show (if startsNow c = true then false else c.ringingOpening) = _ by rw [hs]; rfl⟩

/-- **Rounds until Go**: while no start is armed (`roundsLeft = none`) a boundary never starts the
method, never fails, and never leaves the opening row. -/
theorem opening_until_go (c : Ctl) (i : CtlIn) (h : c.roundsLeft = none) :
    ctlStep c i = .ok (ctlNext c i) false ∧ (ctlNext c i).roundsLeft = none ∧
    (ctlNext c i).ringingOpening = c.ringingOpening := by
  have hs : startsNow c = false := by unfold startsNow; rw [h]; rfl
  refine ⟨(ctlStep_not_due i hs).1, ?_, (ctlStep_not_due i hs).2⟩
  show (if startsNow c = true then none else match c.roundsLeft with | some k => some (k - 1) | none => none) = none
  rw [hs, h]; rfl

/-- A running countdown that has not reached zero just counts down: no start, no failure. -/
theorem countdown (c : Ctl) (i : CtlIn) (k : Nat) (h : c.roundsLeft = some (k + 1)) :
    ctlStep c i = .ok (ctlNext c i) false ∧ (ctlNext c i).roundsLeft = some k ∧
    (ctlNext c i).ringingOpening = c.ringingOpening := by
  have hs : startsNow c = false := by unfold startsNow; rw [h]; rfl
  exact ⟨(ctlStep_not_due i hs).1, (ctlNext_roundsLeft c i k).mpr h, (ctlStep_not_due i hs).2⟩

/-- At zero the method starts, provided the coming row is on the start stroke. -/
theorem start_at_zero (c : Ctl) (i : CtlIn) (h : c.roundsLeft = some 0)
    (hp : handOf (nextRowNumber c i) = i.startHand) :
    ctlStep c i = .ok (ctlNext c i) true ∧ (ctlNext c i).ringingOpening = false ∧
    (ctlNext c i).roundsLeft = none ∧ (ctlNext c i).ringingRounds = (!i.fits || (ctlNext c i).ringingRounds) := by
  unfold handOf at hp
  simp [ctlStep, assertFails, startsNow, ctlNext, h, hp]
  -- left: the rounds flag, whether or not the method fits the tower
  cases i.fits <;> simp

/-- The stroke assertion fails exactly when a zero counter meets the wrong stroke. -/
theorem crash_iff (c : Ctl) (i : CtlIn) :
    ctlStep c i = .crash ↔ (c.roundsLeft = some 0 ∧ handOf (nextRowNumber c i) ≠ i.startHand) := by
  unfold ctlStep assertFails startsNow handOf
  constructor
  · intro h
    split at h
    · rename_i hc; simp at hc; exact ⟨by simpa using hc.1, by simpa using hc.2⟩
    · cases h
  · rintro ⟨h1, h2⟩
    simp [h1, h2]

theorem handOf_succ (k : Nat) : handOf (k + 1) = !handOf k := by
  unfold handOf
  rcases Nat.mod_two_eq_zero_or_one k with h | h <;> rw [Nat.add_mod, h] <;> rfl

/-- The counter `_on_go` writes makes the row that starts the method a row of the start stroke. -/
theorem handOf_goCounter (n : Nat) (sh : Bool) : handOf (n + goCounter n sh + 1) = sh := by
  unfold goCounter
  cases h : handOf n <;> cases sh <;> simp [handOf_succ, h]

/-- **Never sooner, and on the right stroke (Go on the "other" stroke).**  Go delivered during row `k`
whose stroke is not the method's start stroke: the very next row (`k+1`, which is on the start
stroke) starts the method, and the stroke assertion holds. -/
theorem go_starts_next_row (c : Ctl) (i : CtlIn) (hf : i.isFirst = false)
    (hp : handOf c.rowNumber ≠ i.startHand)
    (hc : c.roundsLeft = some (goCounter c.rowNumber i.startHand)) :
    ctlStep c i = .ok (ctlNext c i) true ∧ (ctlNext c i).rowNumber = c.rowNumber + 1 ∧
    handOf (ctlNext c i).rowNumber = i.startHand ∧ (ctlNext c i).ringingOpening = false := by
  have hpar := handOf_goCounter c.rowNumber i.startHand
  have hg : goCounter c.rowNumber i.startHand = 0 := by simp [goCounter, hp]
  rw [hg] at hc hpar
  have hn : nextRowNumber c i = c.rowNumber + 1 := by simp [nextRowNumber, hf]
  obtain ⟨e, o, _, _⟩ := start_at_zero c i hc (by rw [hn]; exact hpar)
  exact ⟨e, hn, (congrArg handOf hn).trans hpar, o⟩

/-- **Never sooner, and on the right stroke (Go on the method's start stroke).**  Go delivered during
row `k` which is itself on the start stroke: row `k+1` is still an opening row (no start, flags
kept) and row `k+2` starts the method; the assertion holds. -/
theorem go_starts_row_after_next (c : Ctl) (i j : CtlIn) (hf : i.isFirst = false) (hj : j.isFirst = false)
    (hs : j.startHand = i.startHand) (hp : handOf c.rowNumber = i.startHand)
    (hc : c.roundsLeft = some (goCounter c.rowNumber i.startHand)) :
    ctlStep c i = .ok (ctlNext c i) false ∧ (ctlNext c i).ringingOpening = c.ringingOpening ∧
    ctlStep (ctlNext c i) j = .ok (ctlNext (ctlNext c i) j) true ∧
    (ctlNext (ctlNext c i) j).rowNumber = c.rowNumber + 2 ∧
    handOf (ctlNext (ctlNext c i) j).rowNumber = i.startHand ∧
    (ctlNext (ctlNext c i) j).ringingOpening = false := by
  have hpar := handOf_goCounter c.rowNumber i.startHand
  have hg : goCounter c.rowNumber i.startHand = 1 := by simp [goCounter, hp]
  rw [hg] at hc hpar
  obtain ⟨e1, r1, o1⟩ := countdown c i 0 hc
  have n1 : (ctlNext c i).rowNumber = c.rowNumber + 1 := by rw [row_numbers]; simp [hf]
  have hn : nextRowNumber (ctlNext c i) j = c.rowNumber + 2 := by simp [nextRowNumber, hj, n1]
  obtain ⟨e2, o2, _, _⟩ := start_at_zero (ctlNext c i) j r1 (by rw [hn, hs]; exact hpar)
  exact ⟨e1, o1, e2, hn, (congrArg handOf hn).trans hpar, o2⟩

/-- **A later, superfluous Go before the start does not move it**: re-arming during row `k+1` (the
row after a Go on the start stroke) computes 0, which is what the counter already holds. -/
theorem second_go_same_start (k : Nat) (startHand : Bool) (hp : handOf k = startHand) :
    goCounter (k + 1) startHand = 0 ∧ goCounter k startHand = 1 := by
  unfold goCounter
  rw [handOf_succ, hp]
  cases startHand <;> exact ⟨rfl, rfl⟩

/-- **Up-down-in**: `look_to_has_been_called` arms the counter with 2 for a handstroke start and 3
for a backstroke start (values regenerated from the source), makes the queued generator current,
clears the stop flags, and then runs the first row boundary. -/
theorem look_to_counter (b : Bot) :
    b.armLookTo.roundsLeft =
      (if !b.upDownIn then none else if (b.nextGen.getD b.gen).startHand then some 2 else some 3) ∧
    b.armLookTo.gen = b.nextGen.getD b.gen ∧ b.armLookTo.nextGen = none ∧ b.armLookTo.isRinging = true ∧
    b.armLookTo.ringingOpening = true ∧ b.armLookTo.shouldStand = false ∧
    b.armLookTo.rowsLeftBeforeRounds = none ∧
    (∀ treble rest, b.openingRow = treble :: rest → (b.lookTo).1 = (b.armLookTo.startNextRow true).1) := by
  refine ⟨by simp [Bot.armLookTo, Generated.upDownInHand, Generated.upDownInBack], rfl, rfl, rfl, rfl, rfl, rfl, ?_⟩
  intro treble rest h
  unfold Bot.lookTo
  simp only [h]

/-- … so with a handstroke start rows 0 and 1 are opening rows and row 2 starts the method, -/
theorem udi_hand_start (c : Ctl) (i0 i1 i2 : CtlIn) (h : c.roundsLeft = some 2)
    (f0 : i0.isFirst = true) (f1 : i1.isFirst = false) (f2 : i2.isFirst = false) (hs : i2.startHand = true) :
    let c0 := ctlNext c i0
    let c1 := ctlNext c0 i1
    let c2 := ctlNext c1 i2
    ctlStep c i0 = .ok c0 false ∧ ctlStep c0 i1 = .ok c1 false ∧ ctlStep c1 i2 = .ok c2 true ∧
    c0.rowNumber = 0 ∧ c1.rowNumber = 1 ∧ c2.rowNumber = 2 ∧
    c0.ringingOpening = c.ringingOpening ∧ c1.ringingOpening = c.ringingOpening ∧
    c2.ringingOpening = false := by
  intro c0 c1 c2
  obtain ⟨e0, r0, o0⟩ := countdown c i0 1 h
  obtain ⟨e1, r1, o1⟩ := countdown c0 i1 0 r0
  have n0 : c0.rowNumber = 0 := by simp [c0, row_numbers, f0]
  have n1 : c1.rowNumber = 1 := by simp [c1, row_numbers, f1, n0]
  have hn : nextRowNumber c1 i2 = 2 := by simp [nextRowNumber, f2, n1]
  obtain ⟨e2, o2, _, _⟩ := start_at_zero c1 i2 r1 (by rw [hn, hs]; rfl)
  exact ⟨e0, e1, e2, n0, n1, by simp [c2, row_numbers, f2, n1], o0, by rw [o1, o0], o2⟩

/-- … and with a backstroke start rows 0–2 are opening rows and row 3 starts the method. -/
theorem udi_back_start (c : Ctl) (i0 i1 i2 i3 : CtlIn) (h : c.roundsLeft = some 3)
    (f0 : i0.isFirst = true) (f1 : i1.isFirst = false) (f2 : i2.isFirst = false) (f3 : i3.isFirst = false)
    (hs : i3.startHand = false) :
    let c0 := ctlNext c i0
    let c1 := ctlNext c0 i1
    let c2 := ctlNext c1 i2
    let c3 := ctlNext c2 i3
    ctlStep c i0 = .ok c0 false ∧ ctlStep c0 i1 = .ok c1 false ∧ ctlStep c1 i2 = .ok c2 false ∧
    ctlStep c2 i3 = .ok c3 true ∧ c3.rowNumber = 3 ∧ c2.ringingOpening = c.ringingOpening ∧
    c3.ringingOpening = false := by
  intro c0 c1 c2 c3
  obtain ⟨e0, r0, o0⟩ := countdown c i0 2 h
  obtain ⟨e1, r1, o1⟩ := countdown c0 i1 1 r0
  obtain ⟨e2, r2, o2⟩ := countdown c1 i2 0 r1
  have n0 : c0.rowNumber = 0 := by simp [c0, row_numbers, f0]
  have n1 : c1.rowNumber = 1 := by simp [c1, row_numbers, f1, n0]
  have n2 : c2.rowNumber = 2 := by simp [c2, row_numbers, f2, n1]
  have hn : nextRowNumber c2 i3 = 3 := by simp [nextRowNumber, f3, n2]
  obtain ⟨e3, o3, _, _⟩ := start_at_zero c2 i3 r2 (by rw [hn, hs]; rfl)
  exact ⟨e0, e1, e2, e3, by simp [c3, row_numbers, f3, n2], by rw [o2, o1, o0], o3⟩

/-- While the opening flag is up the row rung is the opening row (rounds or the custom start row). -/
theorem opening_row_rung (b : Bot) (h : b.ringingOpening = true) :
    (b.generateNextRow).1.row = b.openingRow := (generateNextRow_row b).1 h

/-! Non-vacuity: a Go in row 4 (handstroke) of a handstroke-start method starts it at row 6;
a Go in row 5 starts it at row 6 too. -/
example : goCounter 4 true = 1 ∧ goCounter 5 true = 0 := by decide

/-- Up-down-in is on exactly when `-u` or `-H` was given (anywhere on the command line, any number of times) -
whatever else was given. -/
theorem cli_up_down_in (c : Parse.Chars) (os : List Cli.Opt) (u : Option (List Char × List Char)) (cfg : Cli.Cfg)
    (h : Cli.consoleMain c os u = .built cfg) :
    cfg.udi = (decide (Cli.Opt.udi ∈ os) || decide (Cli.Opt.handbell ∈ os)) :=
  (Cli.main_builds c os u cfg h).udi

section UntilGo
variable {K : Type} [Num K]

/-- Wheatley is on the opening row, no start is armed, and up-down-in is off. -/
def Opening (b : Bot) : Prop := b.ringingOpening = true ∧ b.roundsLeft = none ∧ b.upDownIn = false

/-- Events that cannot start the method: anything but the call "Go" and the settings channel (which could switch
up-down-in on). -/
def NoStart : Ev → Prop
  | .msg (.call c) => c ≠ Generated.call_GO
  | .msg (.setting _) => False
  | _ => True

theorem startNextRow_opening (b : Bot) (f : Bool) (h : Opening b) : Opening (b.startNextRow f).1 := by
  obtain ⟨hs, hr, ho⟩ := opening_until_go b.ctl (b.ctlIn f) h.2.1
  have hc := startNextRow_ctl b f _ _ hs
  obtain ⟨c, g, cs, r, e, -⟩ := startNextRow_frame b f
  exact ⟨(congrArg Ctl.ringingOpening hc).trans (ho.trans h.1), (congrArg Ctl.roundsLeft hc).trans hr,
    by rw [e]; exact h.2.2⟩

theorem firstRow_opening (b : Bot) (h : b.upDownIn = false) : Opening b.firstRow :=
  ⟨rfl, by rw [firstRow_roundsLeft, h]; rfl, h⟩

theorem opening_invariant : BotInvariant Opening NoStart where
  arm := fun b h => by rw [arm_start]; exact firstRow_opening b h.2.2
  tick := fun b bell uc h => tickEnd_fst b bell uc h (startNextRow_opening _ false h)
  msg := fun b m hq h => by
    have hr := onMsg_handles b m
    generalize b.onMsg m = p at hr
    induction hr with
    | lookTo => exact firstRow_opening b h.2.2
    | go c hc => exact absurd hc hq
    | rounds => exact ⟨rfl, h.2⟩
    | settings => exact hq.elim
    | _ => exact h

/-- **Only the opening row until Go, however long, whatever else arrives**: up-down-in is off and no start is
armed.  As long as nobody calls Go (and nobody touches the settings), every row boundary of every touch - Look To
may be called again and again, Bobs, That's all, Rounds, strikes, size changes may arrive - leaves Wheatley on the
opening row: in every state `World.run` reaches, for any fuel. -/
theorem opening_row_until_go (wt : K → K) (endTime : K) :
    ∀ (fuel : Nat) (w : World K) (events : List (K × Ev)), Opening w.bot → (∀ ev ∈ events, NoStart ev.2) →
      Opening (World.run wt endTime fuel w events).1.bot :=
  fun fuel w events h hq => opening_invariant.run wt endTime fuel w events hq h

/-- … and on the opening row, the row generated at a boundary *is* the opening row. -/
theorem opening_row_is_rung (b : Bot) (h : Opening b) : (b.generateNextRow).1.row = b.openingRow :=
  opening_row_rung b h.1

end UntilGo

end Wheatley.C06
