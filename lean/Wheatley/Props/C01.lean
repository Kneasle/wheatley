/-
C01 — every row Wheatley rings is a complete row: each tower bell exactly once.
-/
import Wheatley.Lemmas.Gen
import Wheatley.Lemmas.StartRow
import Wheatley.Model.Bot
import Wheatley.Lemmas.Complete
namespace Wheatley.C01

/-- One change never loses or duplicates a bell: for every stage, every row and **every** place
set (all `2^n` of them, parity-consistent or not). -/
theorem permute_complete (stage : Nat) (row : Row) (places : Places) :
    (permute stage row places).Perm row :=
  permute_perm stage row places

/-- The start row (`generate_starting_row`) is a complete row of the tower whenever it is accepted
and mentions only bells that exist. -/
theorem start_row_complete (n : Nat) (custom : Option Row) (r : Row)
    (h : startingRow n custom = some r) (hfit : ∀ c, custom = some c → ∀ b ∈ c, 1 ≤ b ∧ b ≤ n) :
    r.Perm (rounds n) :=
  startingRow_perm n custom r h hfit

/-- Every row a notation- or rule-driven generator (place notation, Grandsire, Stedman, Plain
Hunt, Dixon's) ever produces is a permutation of its start row — for every configuration and
**every** history of `next_row` / `set_bob` / `set_single` / `reset`, of any length. -/
theorem gen_rows_complete (g : Gen) (hp : g.Permuting) (hrow : g.row.Perm g.startRow)
    (ops : List GenOp) : ∀ r ∈ evRows (g.runOps ops).2, r.Perm g.startRow :=
  Gen.runOps_rows _ ops g hp (fun r places h => (permute_perm g.stage r places).trans h) (List.Perm.refl _) hrow

/-- … in particular no bell is struck twice and none is omitted, when the start row is a complete
row of the tower. -/
theorem gen_rows_each_bell_once (g : Gen) (n : Nat) (hp : g.Permuting)
    (hstart : g.startRow.Perm (rounds n)) (hrow : g.row.Perm g.startRow) (ops : List GenOp) :
    ∀ r ∈ evRows (g.runOps ops).2, r.Nodup ∧ ∀ b, b ∈ r ↔ (1 ≤ b ∧ b ≤ n) :=
  fun r hr => each_bell_once ((gen_rows_complete g hp hrow ops r hr).trans hstart)

/-- A freshly constructed generator satisfies the hypotheses. -/
theorem init_row (kind : GenKind) (cs : Option Row) (sr : Row) :
    (Gen.init kind cs sr).row.Perm (Gen.init kind cs sr).startRow := List.Perm.refl _

/-! Non-vacuity: Grandsire Triples with a Bob and a Single really is an instance. -/
example : ∃ g, mkGrandsire 7 none = some g ∧ g.Permuting ∧ g.startRow = rounds 7 ∧
    (evRows (g.runOps [.next true, .bob, .next false, .next true, .single, .next false]).2).length = 4 :=
  ⟨grandsireTriples, mkGrandsire_7, by decide +kernel⟩

/-- The start row of a generator of stage `stage` is a prefix of the opening row of any tower at least
that big: the bells appended for the tower (`generate_starting_row(number_of_bells, …)`) come after
the ones appended for the stage. -/
theorem opening_extends_start_row (stage n : Nat) (cs : Option Row) (sr op : Row) (hle : stage ≤ n)
    (hs : startingRow stage cs = some sr) (ho : startingRow n cs = some op) : sr <+: op :=
  Complete.opening_extends stage n cs sr op hle hs ho

/-- **The Bot's padding completes the row**: when the generated row is a permutation of the
generator's start row and that start row is a prefix of the opening row, the row the Bot rings —
the generated row followed by the opening row's tail — is a permutation of the opening row. -/
theorem bot_row_complete (b : Bot) (g' : Gen) (r sr : Row) (calls : List String)
    (h1 : b.ringingOpening = false) (h2 : b.ringingRounds = false) (hn : b.gen.next b.hand = .ok g' r calls)
    (hperm : r.Perm sr) (hpre : sr <+: b.openingRow) :
    (b.generateNextRow).1.row.Perm b.openingRow := by
  simp only [Bot.generateNextRow, h1, h2, hn, Bool.false_eq_true, if_false]
  exact Complete.padded_perm r sr b.openingRow hperm hpre

/-- Opening row and closing rounds are rung as they are. -/
theorem bot_opening_and_rounds (b : Bot) :
    (b.ringingOpening = true → (b.generateNextRow).1.row = b.openingRow) ∧
    (b.ringingOpening = false → b.ringingRounds = true → (b.generateNextRow).1.row = b.rounds) :=
  generateNextRow_row b

/-! ### System level: every row of every run

The statements above are about one generator history or one `generate_next_row`.  This one is about the whole
program: the timed world of `Model/World.lean` - main thread, socket thread, clock - run for any number of steps on
any history of events, delivered at any times. -/

section System
variable {K : Type} [Num K]
open Complete

/-- **Whenever Wheatley is ringing, the row it is ringing or waiting for is a complete row of the tower** - in every
state of every run.  `N` is the size of the tower, which the events leave alone (`Fixed N`: strikes and global
states describe `N` bells, size messages repeat `N`, selections have at most `N` bells and complete rows);
everything else is arbitrary: Look To at any moment (also during a touch, also while its own handler is still
asleep), Go, Bob, Single, That's all, Rounds, Stand, assignments, comings and goings, settings, selections, Stop
Touch, the bells set at hand - in any order, at any times, for as many steps as you like (`fuel`).

`Inv N` of the starting state is what the first global state establishes (`loaded_complete`). -/
theorem every_row_is_complete (N : Nat) (wt : K → K) (endTime : K) (fuel : Nat) (w : World K)
    (events : List (K × Ev)) (hs : ∀ ev ∈ events, Fixed N ev.2) (h : Inv N w.bot) :
    (World.run wt endTime fuel w events).1.bot.isRinging = true →
      (World.run wt endTime fuel w events).1.bot.row.Perm (rounds N) :=
  ((botInvariant N).run wt endTime fuel w events hs h).2

/-- ... so no bell is struck twice in it and none is omitted: the row has no repetition and its bells are exactly
`1 … N`. -/
theorem every_row_each_bell_once (N : Nat) (wt : K → K) (endTime : K) (fuel : Nat) (w : World K)
    (events : List (K × Ev)) (hs : ∀ ev ∈ events, Fixed N ev.2) (h : Inv N w.bot)
    (hr : (World.run wt endTime fuel w events).1.bot.isRinging = true) :
    (World.run wt endTime fuel w events).1.bot.row.Nodup ∧
    ∀ x, x ∈ (World.run wt endTime fuel w events).1.bot.row ↔ (1 ≤ x ∧ x ≤ N) :=
  each_bell_once (every_row_is_complete N wt endTime fuel w events hs h hr)

/-- The queue, the opening row and rounds stay in order too (the static part of the invariant), whether Wheatley is
ringing or not: in every state the opening row is a complete row of the tower and extends the generator's start
row, and whatever is queued for the next touch fits the tower. -/
theorem opening_row_always_complete (N : Nat) (wt : K → K) (endTime : K) (fuel : Nat) (w : World K)
    (events : List (K × Ev)) (hs : ∀ ev ∈ events, Fixed N ev.2) (h : Inv N w.bot) :
    (World.run wt endTime fuel w events).1.bot.openingRow.Perm (rounds N) ∧
    (World.run wt endTime fuel w events).1.bot.gen.startRow <+: (World.run wt endTime fuel w events).1.bot.openingRow ∧
    (World.run wt endTime fuel w events).1.bot.rounds = rounds N := by
  have hi := ((botInvariant N).run wt endTime fuel w events hs h).1
  exact ⟨hi.opening, hi.startRow_prefix, hi.rounds⟩

/-- The hypothesis is what `wait_loaded` waits for: a freshly built Bot that has received its first
`s_global_state` satisfies the invariant for the size that state describes - for any generator with complete rows
(`GoodGen`: nothing to ask of notation- and rule-driven ones) whose start row was made by `generate_starting_row`
for a stage within the tower (`Started`; what `Look To` would otherwise refuse, C17). -/
theorem loaded_complete (g : Gen) (u s c : Bool) (nm : Option String) (id : Option Nat) (st : List Bool)
    (hg : GoodGen g) (hst : Started st.length g) (hsrv : id.isSome = true → g.customStart = none) :
    Inv st.length ((Bot.init g u s c nm id).onMsg (.globalState st)).1 := by
  -- `generate_starting_row` fails for a repeated bell only, whatever the size, and it made the generator's start row
  have hs : (startingRow st.length g.customStart).isSome = true := by rw [startingRow_isSome _ g.stage, hst.1]; rfl
  obtain ⟨op, hop⟩ := Option.isSome_iff_exists.mp hs
  rw [loaded_eq g u s c nm id st hop]
  exact ⟨{ size := rfl, rounds := rfl, op := hop, gen := hg, started := hst, srv := hsrv,
           queued := fun _ h => by cases h }, fun h => by cases h⟩

/-- Non-vacuity: Grandsire Triples in a tower of eight, the tower loaded, then Look To, Go, a Bob, the bells set at
hand again - all events of the class, the start state satisfies the invariant. -/
example : ∃ g, mkGrandsire 7 none = some g ∧ GoodGen g ∧ Started 8 g ∧
    (∀ e ∈ [Ev.msg (.call "Look to"), .msg (.call "Go"), .msg (.call "Bob"), .msg (.globalState (List.replicate 8 true)),
            .msg (.bellRung (List.replicate 8 false) 3), .resume], Fixed 8 e) := by
  refine ⟨grandsireTriples, mkGrandsire_7, ⟨.refl _, trivial⟩, ⟨rfl, by decide, fun c hc => nomatch hc⟩, ?_⟩
  · intro e he
    simp only [List.mem_cons, List.mem_nil_iff, or_false] at he
    rcases he with rfl | rfl | rfl | rfl | rfl | rfl <;> simp [Fixed]

end System
end Wheatley.C01
