/-
C03 — every change is a legal change: neighbours swap, nobody jumps, covers stay.
-/
import Wheatley.Lemmas.Gen
import Wheatley.Lemmas.Change
import Wheatley.Lemmas.Covers
import Wheatley.Model.World
namespace Wheatley.C03

/-- `r'` is obtained from `r` by a legal change of the given stage. -/
structure Legal (stage : Nat) (r r' : Row) : Prop where
  length : r'.length = r.length
  /-- each position of the new row holds the bell that was there or an adjacent one -/
  from_adjacent : ∀ k, r'[k]? = r[k]? ∨ r'[k]? = r[k+1]? ∨ (0 < k ∧ r'[k]? = r[k-1]?)
  /-- each bell of the old row is found in the same or an adjacent position of the new row:
      no bell moves more than one place -/
  to_adjacent : ∀ k, r[k]? = r'[k]? ∨ r[k]? = r'[k+1]? ∨ (0 < k ∧ r[k]? = r'[k-1]?)
  /-- bells above the stage (the covers) do not move -/
  covers : r'.drop stage = r.drop stage

/-- Swaps are their own inverse: the pairs that cross are disjoint. -/
theorem permute_twice (stage : Nat) (row : Row) (places : Places) :
    permute stage (permute stage row places) places = row := by
  unfold permute
  split
  · cases row with
    | nil => rfl
    | cons a rest => exact congrArg (a :: ·) (permuteAux_involutive stage places 2 rest)
  · exact permuteAux_involutive stage places 1 row

/-- Every `(stage, place set, row)` whatsoever gives a legal change. -/
theorem permute_legal (stage : Nat) (row : Row) (places : Places) :
    Legal stage row (permute stage row places) where
  length := permute_length stage row places
  from_adjacent := permute_adjacent stage row places
  to_adjacent := by
    have h := permute_adjacent stage (permute stage row places) places
    rwa [permute_twice] at h
  covers := permute_drop stage row places

/-- Every row produced by a notation- or rule-driven generator — plain, Bob, Single, Dixon's rules —
is a legal change of the row before it (the generator's stored row, which `reset` sets back to the
start row).  Together with `Gen.next_keeps` (the produced row is stored) this is the statement for all
consecutive rows of every history. -/
theorem gen_step_legal (g : Gen) (hp : g.Permuting) (hand : Bool) (g' : Gen) (r : Row)
    (calls : List String) (h : g.next hand = .ok g' r calls) :
    Legal g.stage g.row r ∧ g'.row = r ∧ g'.kind = g.kind := by
  obtain ⟨places, rfl⟩ := Gen.next_permuting hp h
  have hk := Gen.next_keeps h
  exact ⟨permute_legal g.stage g.row places, hk.1, hk.2.2⟩

/-- Along any history every row keeps the start row's length and its cover bells. -/
theorem gen_rows_covers (g : Gen) (hp : g.Permuting) (hrow : g.row = g.startRow) (ops : List GenOp) :
    ∀ r ∈ evRows (g.runOps ops).2,
      r.length = g.startRow.length ∧ r.drop g.stage = g.startRow.drop g.stage :=
  Gen.runOps_rows _ ops g hp (fun _ _ h => ⟨(permute_length _ _ _).trans h.1, (permute_drop _ _ _).trans h.2⟩)
    ⟨rfl, rfl⟩ (hrow ▸ ⟨rfl, rfl⟩)

/-- **Every place named in the notation is made** when the change is parity-consistent (before every
named place an even number of places are unnamed, counting from place 1 — or from place 2 when the
lowest named place is even and the lead is implied): the bell in that place stays. -/
theorem named_places_made (stage : Nat) (row : Row) (P : Places)
    (hc : Consistent stage P (if implicitLead P then 2 else 1)) (p : Nat) (hp : p ∈ P) (h1 : 1 ≤ p)
    (hps : p ≤ stage) : (permute stage row P)[p - 1]? = row[p - 1]? := by
  obtain ⟨j, rfl⟩ := Nat.exists_eq_succ_of_ne_zero (Nat.ne_of_gt h1)
  exact permute_keeps stage row P hc j (.inr (.inr hp))

/-- **… and the places that are not named swap in pairs**: in a parity-consistent change the bell in an
unnamed place `p < stage` with an even number of unnamed places before it, and the bell in place
`p + 1`, change places.  With `named_places_made` this determines the whole row: `permute` *is* the
change the notation denotes. -/
theorem unnamed_places_swap (stage : Nat) (row : Row) (P : Places)
    (hc : Consistent stage P (if implicitLead P then 2 else 1)) (p : Nat) (hp : p ∉ P)
    (h1 : (if implicitLead P then 2 else 1) ≤ p) (hps : p < stage) (hlen : p < row.length)
    (hev : unmade P (if implicitLead P then 2 else 1) p % 2 = 0) :
    (permute stage row P)[p - 1]? = row[p]? ∧ (permute stage row P)[p]? = row[p - 1]? := by
  obtain ⟨j, rfl⟩ := Nat.exists_eq_succ_of_ne_zero (Nat.ne_of_gt (Nat.lt_of_lt_of_le (firstPlace_pos P) h1))
  exact (permute_places stage row P hc j h1 hev).2.1 hp hps
    fun h => Nat.not_le_of_lt hlen (List.getElem?_eq_none_iff.mp h)

/-- Non-vacuity: `14` on six swaps 2-3 and 5-6. -/
example : permute 6 [1, 2, 3, 4, 5, 6] [1, 4] = [1, 3, 2, 4, 6, 5] := by decide

/-- The hypothesis is decidable on concrete notations and satisfied by the usual ones, e.g. `14` and
`1234` on six (and not by the inconsistent `13`). -/
example : Consistent 6 [1, 4] 1 ∧ Consistent 6 [1, 2, 3, 4] 1 ∧ ¬ Consistent 6 [1, 3] 1 := by
  simp only [← consistentB_iff]
  decide

/-! Non-vacuity: a Dixon's Bob Minor step with a Single pending is an instance. -/
example : ∃ g g' r c, mkDixon 6 none = some g ∧ g.Permuting ∧
    g.setSingle.next false = .ok g' r c ∧ r = [1, 2, 3, 4, 6, 5] := by
  -- `+kernel` for the component that takes the step: plain `decide` evaluates it in the elaborator and again in the kernel
  refine ⟨(mkDixon 6 none).get (by decide), _, _, _, by simp, by decide, rfl, by decide +kernel⟩


section System
variable {K : Type} [Num K]
open MethodRows

/-- **Bells above the method ring as covers in the same last places of every row.**  In a tower that keeps its `N`
bells (`Complete.Fixed N`; selections total, `Sel`), in every state of every run, while the method is being rung: the
row being rung is the generator's current row followed by the opening row's tail - so everything behind the
generator's row is, bell for bell and place for place, what the opening row put there, row after row, whatever is
called, selected, assigned or set meanwhile.  (With `C01.every_row_is_complete` the whole is a complete row; with
`gen_step_legal` the front part moves by adjacent swaps only.) -/
theorem covers_ring_behind_the_method (N : Nat) (wt : K → K) (endTime : K) (fuel : Nat) (w : World K)
    (events : List (K × Ev)) (hs : ∀ ev ∈ events, Covers.E N ev.2) (h : Covers.J N w.bot) :
    InMethod (World.run wt endTime fuel w events).1.bot →
      (World.run wt endTime fuel w events).1.bot.row =
        (World.run wt endTime fuel w events).1.bot.gen.row ++
          (World.run wt endTime fuel w events).1.bot.openingRow.drop (World.run wt endTime fuel w events).1.bot.gen.row.length :=
  ((Covers.botInvariant N).run wt endTime fuel w events hs h).2.2

/-- ... in particular the part of the row behind the generator's row never changes during the method. -/
theorem covers_are_the_opening_rows (N : Nat) (wt : K → K) (endTime : K) (fuel : Nat) (w : World K)
    (events : List (K × Ev)) (hs : ∀ ev ∈ events, Covers.E N ev.2) (h : Covers.J N w.bot)
    (hm : InMethod (World.run wt endTime fuel w events).1.bot) :
    (World.run wt endTime fuel w events).1.bot.row.drop (World.run wt endTime fuel w events).1.bot.gen.row.length =
      (World.run wt endTime fuel w events).1.bot.openingRow.drop (World.run wt endTime fuel w events).1.bot.gen.row.length := by
  rw [covers_ring_behind_the_method N wt endTime fuel w events hs h hm]
  exact List.drop_left

end System

end Wheatley.C03
