/-
C14 — a hold-up delays everything by the hold-up; time itself is irrelevant.
-/
import Wheatley.Props.C12
import Wheatley.Model.World
import Wheatley.Lemmas.World
import Wheatley.Lemmas.SoloWorld
import Wheatley.Props.C09
namespace Wheatley.C14
open Generated

variable {K : Type} [Field K] [LinearOrder K] [IsStrictOrderedRing K]

theorem W0_eq_zero : (W0 : K) = 0 := Nat.cast_zero

/-- **The wrapper lies about the time by exactly `delay`**: the inner rhythm plans its wait from
`now − delay`, so a bell whose time on the line is `bt` is waited for until the real time
`bt + delay` — everything after a hold-up is simply later by the accumulated delay, with unchanged
intervals (the line itself is untouched). -/
theorem wake_is_inner_plus_delay (w : World K) (wr : WaitR K) (bell : Nat) (uc hand : Bool) (s : K)
    (hstub : w.rh.stub = none) (hw : w.rh.wait = some wr) (hs : w.rh.reg.start = .fin s) (h0 : s ≠ 0)
    (hlt : w.now - wr.delay < indexToRealTime (w.rh.reg.line s) w.bot.rowNumber w.bot.place) :
    (w.beginWait bell uc hand).2.1 =
        indexToRealTime (w.rh.reg.line s) w.bot.rowNumber w.bot.place - (w.now - wr.delay) ∧
      w.now + (indexToRealTime (w.rh.reg.line s) w.bot.rowNumber w.bot.place - (w.now - wr.delay)) =
        indexToRealTime (w.rh.reg.line s) w.bot.rowNumber w.bot.place + wr.delay := by
  have hd : w.delay = wr.delay := by rw [World.delay, hw]
  refine ⟨?_, by ring⟩
  obtain ⟨_, -, -, e⟩ := beginWait_eq w bell uc hand
  rw [e, hstub, hd, waitPlan_before w.rh.reg s _ _ _ uc hs h0 hlt]

/-- **Leaving the polling loop adds exactly the time slept in it** (`d`, a sum of 10 ms polls) to the delay.  That
nothing else ever changes it is `hold_up_is_whole_polls`, that Look To does not reset it `hold_up_never_forgotten`. -/
theorem delay_after_wait (w : World K) (wt : K → K) (wr : WaitR K) (bell : Nat) (hand : Bool) (d : K)
    (justSlept : Bool) (hw : w.rh.wait = some wr)
    (hleave : ((justSlept && wr.shouldReturn) || !((wr.expected hand).contains bell)) = true) :
    ∃ w' : World K, (w.afterInner wt bell true hand d justSlept) = (w'.finishTick wt bell true) ∧
      w'.rh.wait = some { (if d = 0 then wr else { wr with delay := wr.delay + d }) with shouldReturn := false } ∧
      w'.now = w.now :=
  ⟨_, afterInner_leaves wt w bell hand d justSlept hw hleave,
    by simp only [num_eqb, W0_eq_zero, decide_eq_true_eq]; split <;> rfl, rfl⟩

/-- While the awaited bell is still expected the loop just polls: ten more milliseconds. -/
theorem poll_adds_one_step (w : World K) (wt : K → K) (wr : WaitR K) (bell : Nat) (hand : Bool) (d : K)
    (hw : w.rh.wait = some wr) (hexp : (wr.expected hand).contains bell = true) (hret : wr.shouldReturn = false) :
    w.afterInner wt bell true hand d true =
      ({ w with pc := .userPoll bell true hand d }, .sleep (Num.ofQ waitSleepTime)) ∧
    (Num.ofQ waitSleepTime : K) = 1 / 100 :=
  ⟨C09.wait_holds w wt wr bell hand d true hw (by simpa using hexp) (by rw [hret]; rfl),
    by simp [num_ofQ, waitSleepTime]⟩

/-- **Time itself is irrelevant (regression)**: moving every remembered real time by `c` moves the
fitted start by `c` and leaves the fitted interval unchanged … -/
theorem regression_origin_free (c : K) (ds : List (K × K × K)) (hd : det ds ≠ 0) :
    regress (ds.map (fun d => (d.1, d.2.1 + c, d.2.2))) = ((regress ds).1 + c, (regress ds).2) := by
  simpa only [sub_zero, sub_neg_eq_add, mul_zero, add_zero] using regress_moved 0 (-c) ds hd

/-- … and positions measured in blows (hence the weights `exp(−diff²)`) do not see the origin: a
strike at `t` against a line starting at `s` is where a strike at `t + c` is against a line starting
at `s + c`. -/
theorem position_origin_free (l : Line K) (t c : K) :
    realTimeToBlowTime { l with start := l.start + c } (t + c) = realTimeToBlowTime l t := by
  simp only [realTimeToBlowTime]; ring

theorem real_time_origin_free (l : Line K) (r p : Nat) (c : K) :
    indexToRealTime { l with start := l.start + c } r p = indexToRealTime l r p + c := by
  simp only [indexToRealTime, blowTimeToRealTime, indexToBlowTime]; ring

theorem lerp_origin_free (a b t c : K) : lerp (a + c) (b + c) t = lerp a b t + c := by
  rw [C12.lerp_eq, C12.lerp_eq]; ring

/-! The second equation of `wake_is_inner_plus_delay` on numbers: the clock at 101.63, a bell due at 100 on the line,
0.37 s of delay. -/
example : (101.63 : ℚ) + ((100 : ℚ) - (101.63 - 0.37) + 0) = 100 + 0.37 := by norm_num

section System

theorem delay_map (w : World K) (g : WaitR K → WaitR K) (hg : ∀ x, (g x).delay = x.delay) (r : Reg K) :
    ({ w with rh := { w.rh with reg := r, wait := w.rh.wait.map g } } : World K).delay = w.delay := by
  unfold World.delay
  cases hw : w.rh.wait with
  | none => simp
  | some x => simp [hg]

/-- Interpreting an output - a rhythm call included - never changes the accumulated hold-up. -/
theorem applyOut_delay (wt : K → K) (ct : K) (w : World K) (o : Out) : (World.applyOut wt ct w o).delay = w.delay :=
  foldl_applyOut_delay wt ct [o] w

/-- A law of the accumulated hold-up: `D` is a predicate on the delay, `Q` one on the polling loop's own count of
the time it has slept. -/
structure DelayLaw (D Q : K → Prop) : Prop where
  zero : Q W0
  step : ∀ d, Q d → Q (d + Num.ofQ waitSleepTime)
  add : ∀ x d, D x → Q d → D (x + d)

structure Kept (D Q : K → Prop) (w : World K) : Prop where
  delay : D w.delay
  poll : ∀ bell uc hand d, w.pc = .userPoll bell uc hand d → Q d

variable {D Q : K → Prop}

theorem mainStep_kept (L : DelayLaw D Q) (wt : K → K) (w : World K) (h : Kept D Q w) : Kept D Q (w.mainStep wt).1 := by
  have hq : Q w.polled := by
    unfold World.polled
    split
    · rename_i hpc; exact L.step _ (h.poll _ _ _ _ hpc)
    · exact L.zero
  obtain ⟨_, -, hs⟩ := mainStep_does wt w
  rcases hs.holdUp with ⟨e, _, _, _, hpc⟩ | ⟨e, hn⟩
  · -- it polls on
    exact ⟨e ▸ h.delay, fun _ _ _ _ e' => by rw [hpc] at e'; cases e'; exact hq⟩
  · -- it ends outside the polling loop
    refine ⟨?_, fun _ _ _ _ e' => absurd e' (hn _ _ _ _)⟩
    rcases e with e | e
    · exact e ▸ h.delay
    · exact e ▸ L.add _ _ h.delay hq

/-- The delivery of any event - an accepted Look To and the waking of its handler included - leaves the hold-up as
it is. -/
theorem deliver_delay (wt : K → K) (w : World K) (e : Ev) : (World.deliver wt w e).delay = w.delay :=
  deliver_rh wt w e (told_delay wt w.delay) rfl

theorem run_kept (L : DelayLaw D Q) (wt : K → K) (endTime : K) :
    ∀ (fuel : Nat) (w : World K) (events : List (K × Ev)), Kept D Q w → Kept D Q (World.run wt endTime fuel w events).1 :=
  fun fuel w events h =>
    WorldInvariant.run (E := fun _ => True)
      ⟨fun _ _ h => ⟨h.delay, h.poll⟩, mainStep_kept L wt,
        fun w e _ h => ⟨(deliver_delay wt w e) ▸ h.delay, (deliver_never_rings wt w e).1 ▸ h.poll⟩⟩
      endTime fuel w events (fun _ _ => trivial) h

abbrev Held (w : World K) (d0 : K) : Prop := Kept (fun x => d0 ≤ x) (fun d => 0 ≤ d) w

theorem heldLaw (d0 : K) : DelayLaw (fun x : K => d0 ≤ x) (fun d => 0 ≤ d) :=
  { zero := W0_eq_zero.ge, step := fun _ h => add_nonneg h poll_pos.le, add := fun _ _ => le_add_of_le_of_nonneg }

/-- **A hold-up is never forgotten.**  Whatever hold-up the band has caused so far stays in every later bell time:
in every state of every run - whatever is struck and whenever, whoever comes, goes, takes or drops a rope, whatever
is called, selected, set or stopped, *Look To and a new touch included*, for as many steps as you like - the
accumulated delay is at least what it was.  (Every wait is planned from `now − delay`, `wake_is_inner_plus_delay`:
so everything after a hold-up is later by at least that hold-up, for good.) -/
theorem hold_up_never_forgotten (wt : K → K) (endTime : K) (fuel : Nat) (w : World K) (events : List (K × Ev))
    (hpc : ∀ bell uc hand d, w.pc = .userPoll bell uc hand d → 0 ≤ d) :
    w.delay ≤ (World.run wt endTime fuel w events).1.delay :=
  (run_kept (heldLaw w.delay) wt endTime fuel w events { delay := le_refl _, poll := hpc }).delay

/-- From the moment the session is joined (the main thread is not yet polling for anyone). -/
theorem hold_up_monotone_from_start (wt : K → K) (endTime : K) (fuel : Nat) (now : K) (bot : Bot) (rh : Rh K)
    (tape : List (K × K)) (lt : Option K) (events : List (K × Ev)) :
    (World.init now bot rh tape lt).delay ≤ (World.run wt endTime fuel (World.init now bot rh tape lt) events).1.delay :=
  hold_up_never_forgotten wt endTime fuel _ events (by intro _ _ _ _ e; cases e)

theorem pollsLaw (d0 : K) :
    DelayLaw (fun x : K => ∃ n : ℕ, x = d0 + n * Num.ofQ waitSleepTime) (fun d => ∃ m : ℕ, d = m * Num.ofQ waitSleepTime) :=
  { zero := ⟨0, by rw [Nat.cast_zero, zero_mul, W0_eq_zero]⟩
    step := (by
      rintro d ⟨m, rfl⟩
      exact ⟨m + 1, by rw [Nat.cast_succ, add_mul, one_mul]⟩)
    add := (by
      rintro x d ⟨n, rfl⟩ ⟨m, rfl⟩
      exact ⟨n + m, by rw [Nat.cast_add, add_mul, add_assoc]⟩) }

/-- **The hold-up grows by whole polls only.**  In every state of every run, for all events, the accumulated delay
is what it was plus a whole number of the 10 ms polls the main thread slept while it waited for somebody: nothing
else - no handler, no Look To, no setting, no rounding of a clock difference - ever enters it. -/
theorem hold_up_is_whole_polls (wt : K → K) (endTime : K) (fuel : Nat) (w : World K) (events : List (K × Ev))
    (hpc : ∀ bell uc hand d, w.pc = .userPoll bell uc hand d → ∃ m : ℕ, d = m * Num.ofQ waitSleepTime) :
    ∃ n : ℕ, (World.run wt endTime fuel w events).1.delay = w.delay + n * Num.ofQ waitSleepTime :=
  (run_kept (pollsLaw w.delay) wt endTime fuel w events { delay := ⟨0, by simp⟩, poll := hpc }).delay

/-- Non-vacuity: a band 0.37 s behind, the main thread two polls into waiting for bell 3 - `Held`. -/
example : ∃ w : World ℚ, Held w (37 / 100) ∧ w.pc = .userPoll 3 true true (1 / 50) := by
  refine ⟨{ World.init (0 : ℚ) (Bot.init (Gen.init .placeholder none []) false false true none none)
              { reg := Reg.init (1 : ℚ) 180 1 4 15 0,
                wait := some { currentHand := true, expectedHand := [3], expectedBack := [], earlyHand := [],
                               earlyBack := [], delay := 37 / 100, shouldReturn := false },
                stub := none } [] none with pc := .userPoll 3 true true (1 / 50) }, ?_, rfl⟩
  exact { delay := le_refl _, poll := (by intro _ _ _ d e; cases e; norm_num) }

end System

end Wheatley.C14
