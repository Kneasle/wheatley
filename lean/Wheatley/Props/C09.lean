/-
C09 — unless told to keep going, Wheatley never gets ahead of a human.

The waiting wrapper keeps, per stroke, the set of human bells *expected* and the set heard *early*.
The theorems say: a turn on a human bell cannot end while that bell is expected on the stroke being
rung; every human bell of a row is put into that set when the row starts unless it was already heard
on that stroke; and only hearing that bell on that stroke takes it out.
-/
import Wheatley.Model.World
import Wheatley.Lemmas.SoloWorld
import Wheatley.Lemmas.Cli
import Wheatley.Lemmas.Rhythm
import Wheatley.Lemmas.Handlers
namespace Wheatley.C09

variable {K : Type} [Num K]

set_option linter.unusedSectionVars false

/-- **The wait holds**: while the awaited human bell is expected on the turn's stroke (and nobody
called Look To / Stop Touch) the turn does not end — the main thread only sleeps one more poll, the
Bot is untouched, nothing is emitted. -/
theorem wait_holds (w : World K) (wt : K → K) (wr : WaitR K) (bell : Nat) (hand : Bool) (d : K) (justSlept : Bool)
    (hw : w.rh.wait = some wr) (hexp : bell ∈ wr.expected hand)
    (hret : (justSlept && wr.shouldReturn) = false) :
    w.afterInner wt bell true hand d justSlept =
      ({ w with pc := .userPoll bell true hand d }, .sleep (Num.ofQ Generated.waitSleepTime)) := by
  exact afterInner_polls wt w bell hand d justSlept hw (by simp [hret, hexp])

/-- … and the next wake-up comes back to the same test. -/
theorem poll_returns_to_test (w : World K) (wt : K → K) (bell : Nat) (uc hand : Bool) (d : K)
    (hpc : w.pc = .userPoll bell uc hand d) :
    w.mainStep wt = w.afterInner wt bell uc hand (d + Num.ofQ Generated.waitSleepTime) true := by
  unfold World.mainStep
  simp only [hpc]

theorem polls_on (w : World K) (wt : K → K) (wr : WaitR K) (bell : Nat) (hand : Bool) (d : K)
    (hpc : w.pc = .userPoll bell true hand d) (hw : w.rh.wait = some wr) (hexp : bell ∈ wr.expected hand)
    (hret : wr.shouldReturn = false) :
    w.mainStep wt = ({ w with pc := .userPoll bell true hand (d + Num.ofQ Generated.waitSleepTime) },
      .sleep (Num.ofQ Generated.waitSleepTime)) :=
  (poll_returns_to_test w wt bell true hand d hpc).trans
    (wait_holds w wt wr bell hand _ true hw hexp (by rw [hret]; rfl))

/-- **Every human bell of the row is armed**: after `expect_bell(bell, …, stroke)` the bell is in the
expected set of that stroke, unless it is recorded as already heard on that stroke (rung a stroke
ahead). -/
theorem expect_arms (wr : WaitR K) (bell : Nat) (hand : Bool) :
    bell ∈ (wr.expect bell hand).expected hand ∨ bell ∈ (wr.expect bell hand).early hand := by
  unfold WaitR.expect
  -- whatever the change of stroke has made of the wrapper
  generalize (if (hand != wr.currentHand) = true then
      (({ wr with currentHand := hand }).setExpected hand []).setEarly (!hand) [] else wr) = q
  by_cases h : (q.early hand).contains bell = true
  · right; rw [if_pos h]; simpa using h
  · left
    rw [if_neg h, expected_setExpected]
    simp [mem_setAdd]

/-- The early set of a stroke only ever receives a bell through a strike *heard on that stroke* while
the other stroke was being rung: "early" means it has actually rung that stroke. -/
theorem early_only_by_strike (wr : WaitR K) (bell b : Nat) (hand h : Bool)
    (hnew : b ∈ (wr.onBellRing bell hand).early h) (hold : b ∉ wr.early h) :
    b = bell ∧ hand ≠ wr.currentHand ∧ h = !wr.currentHand := by
  by_cases hc : hand = wr.currentHand
  · subst hc
    rw [onBellRing_on_stroke, early_setEarly] at hnew
    split at hnew
    · rename_i hh
      rw [mem_setDel, ← hh] at hnew
      exact absurd hnew.1 hold
    · rw [early_setExpected] at hnew; exact absurd hnew hold
  · rw [onBellRing_off_stroke wr bell hand hc, early_setEarly] at hnew
    split at hnew
    · rename_i hh
      rcases (mem_setAdd _ _ _).mp hnew with hn | hn
      · exact absurd (hh ▸ hn) hold
      · exact ⟨hn, hc, hh⟩
    · exact absurd hnew hold

/-- **Only its own strike on the stroke being rung disarms a bell**: hearing any strike keeps every
other expected bell expected, and keeps this bell expected unless the strike is of this bell on the
current stroke. -/
theorem strike_disarms_only_itself (wr : WaitR K) (bell b : Nat) (hand h : Bool)
    (hexp : b ∈ wr.expected h)
    (hother : ¬ (b = bell ∧ hand = wr.currentHand ∧ h = wr.currentHand)) :
    b ∈ (wr.onBellRing bell hand).expected h := by
  by_cases hc : hand = wr.currentHand
  · subst hc
    rw [onBellRing_on_stroke, expected_setEarly, expected_setExpected]
    split
    · rename_i hh
      exact (mem_setDel _ _ _).mpr ⟨hh ▸ hexp, fun hb => hother ⟨hb, rfl, hh⟩⟩
    · exact hexp
  · rw [onBellRing_off_stroke wr bell hand hc, expected_setEarly]
    exact hexp

/-- … and its own strike on the current stroke does disarm it: the wait then ends at the next test. -/
theorem own_strike_disarms (wr : WaitR K) (bell : Nat) :
    bell ∉ (wr.onBellRing bell wr.currentHand).expected wr.currentHand := by
  rw [onBellRing_on_stroke, expected_setEarly, expected_setExpected, if_pos rfl, mem_setDel]
  exact fun h => h.2 rfl

/-- Arming the bells of the *same* row never disarms one already armed; only the first expectation of
a row on the other stroke clears that other stroke's (stale) set. -/
theorem expect_keeps_armed (wr : WaitR K) (bell b : Nat) (hand h : Bool)
    (hexp : b ∈ wr.expected h) (hsame : hand = wr.currentHand ∨ h ≠ hand) :
    b ∈ (wr.expect bell hand).expected h := by
  unfold WaitR.expect
  have key : ∀ q : WaitR K, b ∈ q.expected h →
      b ∈ (if (q.early hand).contains bell = true then q else
            q.setExpected hand (setAdd (q.expected hand) bell)).expected h := by
    intro q hq
    split
    · exact hq
    · rw [expected_setExpected]
      split
      · rename_i hh; exact (mem_setAdd _ _ _).mpr (.inl (hh ▸ hq))
      · exact hq
  apply key
  split
  · rename_i hc
    rw [expected_setEarly, expected_setExpected, if_neg (hsame.resolve_left (by simpa using hc))]
    exact hexp
  · exact hexp

/-- Keep-going mode has no such loop at all: without the wrapper a turn ends as soon as the inner wait
returns. -/
theorem keep_going_never_waits (w : World K) (wt : K → K) (bell : Nat) (uc hand : Bool) (d : K) (js : Bool)
    (h : w.rh.wait = none) : w.afterInner wt bell uc hand d js = w.finishTick wt bell uc :=
  afterInner_keep_going wt w bell uc hand d js h

/-- **Look To forgets who was early**: the outer half of `initialise_line` empties both expected sets
and both early sets and goes back to handstroke, whatever was left over from an earlier touch (a strike
made after the touch had stood is not counted as "already rung" in the new touch). -/
theorem look_to_forgets_early (wr : WaitR K) (h : Bool) :
    wr.initialise.early h = [] ∧ wr.initialise.expected h = [] ∧ wr.initialise.currentHand = true := by
  cases h <;> exact ⟨rfl, rfl, rfl⟩

/-- … so every human bell of the first row of a touch is armed, without exception. -/
theorem first_row_arms (wr : WaitR K) (bell : Nat) :
    bell ∈ (wr.initialise.expect bell true).expected true := by
  simp [WaitR.expect, WaitR.initialise, WaitR.early, WaitR.expected, WaitR.setExpected, setAdd]

section Waiting
open Generated
variable {F : Type} [Field F] [LinearOrder F] [IsStrictOrderedRing F]

theorem succ_polls (a p : F) (k : ℕ) : a + ((k + 1 : ℕ) : F) * p = a + p + (k : F) * p := by
  rw [Nat.cast_succ, add_mul, one_mul, add_comm ((k : F) * p), add_assoc]

/-- **However long it takes**: while the awaited human bell has not been heard on the stroke being rung
(and nobody calls Look To or Stop Touch), the main thread polls — for any number `n` of polls, that is for
milliseconds or for minutes.  Nothing is emitted, the Bot does not move, the clock advances by `n` polls. -/
theorem waits_as_long_as_it_takes (wt : F → F) (endTime : F) (wr : WaitR F) (bell : Nat) (hand : Bool)
    (hexp : bell ∈ wr.expected hand) (hret : wr.shouldReturn = false) :
    ∀ (n fuel : Nat) (w : World F) (d : F),
      w.pc = .userPoll bell true hand d → w.rh.wait = some wr →
      w.now + (n : F) * Num.ofQ waitSleepTime ≤ endTime →
      ∃ w' : World F, World.run wt endTime (fuel + n) w [] = World.run wt endTime fuel w' [] ∧
        w'.obs = w.obs ∧ w'.bot = w.bot ∧ w'.rh.wait = some wr ∧
        w'.now = w.now + (n : F) * Num.ofQ waitSleepTime ∧
        w'.pc = .userPoll bell true hand (d + (n : F) * Num.ofQ waitSleepTime) := by
  intro n
  induction n with
  | zero =>
    intro fuel w d hpc hw _
    refine ⟨w, rfl, rfl, rfl, hw, ?_, ?_⟩ <;> rw [Nat.cast_zero, zero_mul, add_zero]
    exact hpc
  | succ k ih =>
    intro fuel w d hpc hw hend
    have hp := poll_pos (K := F)
    rw [succ_polls] at hend
    -- the first poll ends before `endTime`, since all `k + 1` do
    have hfit : w.now + Num.ofQ waitSleepTime ≤ endTime :=
      le_of_add_le_of_nonneg_left hend (mul_nonneg (Nat.cast_nonneg k) hp.le)
    obtain ⟨w2, hrun, hobs, hbot, hwait, hnow, hpc2⟩ := ih fuel
      { w with pc := .userPoll bell true hand (d + Num.ofQ waitSleepTime), now := w.now + Num.ofQ waitSleepTime }
      (d + Num.ofQ waitSleepTime) rfl hw hend
    refine ⟨w2, ?_, hobs, hbot, hwait, ?_, ?_⟩
    · exact (run_sleep wt endTime (fuel + k) w _ _ _ (polls_on w wt wr bell hand d hpc hw hexp hret) rfl hfit hp).trans hrun
    · rw [hnow, succ_polls]
    · rw [hpc2, succ_polls]

end Waiting

section Settings
variable {K : Type} [Num K]

/-- **A setting is no reason to stop waiting**: passing a setting on to the rhythm leaves the waiting
wrapper exactly as it was - who is awaited, who was early, the return-to-main-loop flag. -/
theorem setting_keeps_waiting (wt : K → K) (ct : K) (w : World K) (key : String) (v : SVal) :
    (World.applyOut wt ct w (.rSetting key v)).rh.wait = w.rh.wait := by
  obtain ⟨reg, wait, now, la, tape, md, h, -, rfl | rfl, -⟩ := applyOut_eq wt ct w (.rSetting key v)
  · rw [h]
  · rw [h]
    -- `Out.onWait` of a setting is the identity
    exact Option.map_id'

end Settings

/-- The waiting wrapper is used unless `-k` was given; the deprecated `--wait` changes nothing. -/
theorem cli_waits_unless_keep_going (c : Parse.Chars) (os : List Cli.Opt) (u : Option (List Char × List Char))
    (cfg : Cli.Cfg) (h : Cli.consoleMain c os u = .built cfg) :
    cfg.useWait = !decide (Cli.Opt.keepGoing ∈ os) :=
  (Cli.main_builds c os u cfg h).useWait

/-- **Whatever else happens meanwhile**: while the main thread is polling for a human bell, the delivery of any
event whatsoever leaves it at the same test and strikes nothing; and unless that event took the bell out of the
awaited set (its own strike on this stroke - `strike_disarms_only_itself`) or asked the wait to be given up
(Look To, Stop Touch), the next wake-up sleeps again.  -/
theorem poll_survives_delivery {K : Type} [Num K] (wt : K → K) (w : World K) (e : Ev) (bell : Nat) (hand : Bool) (d : K)
    (hpc : w.pc = .userPoll bell true hand d) :
    (World.deliver wt w e).pc = .userPoll bell true hand d ∧
    ringsOf (World.deliver wt w e).obs = ringsOf w.obs ∧
    (∀ wr', (World.deliver wt w e).rh.wait = some wr' → bell ∈ wr'.expected hand → wr'.shouldReturn = false →
      (World.deliver wt w e).mainStep wt =
        ({ (World.deliver wt w e) with pc := .userPoll bell true hand (d + Num.ofQ Generated.waitSleepTime) },
         .sleep (Num.ofQ Generated.waitSleepTime))) := by
  obtain ⟨h1, h2⟩ := deliver_never_rings wt w e
  exact ⟨h1.trans hpc, h2, fun wr' hw hexp hret => polls_on _ wt wr' bell hand d (h1.trans hpc) hw hexp hret⟩

section Silence
variable {K : Type} [Num K]

/-- The wrapper is waiting for `bell` on stroke `hand` and has not been asked to give up. -/
def Armed (w : World K) (bell : Nat) (hand : Bool) : Prop :=
  ∃ wr, w.rh.wait = some wr ∧ bell ∈ wr.expected hand ∧ wr.shouldReturn = false

/-- Events that are neither a strike of `bell`, nor Look To, nor Stop Touch, nor the second half of a Look To
handler: other bells' strikes, every other call, assignments, arrivals and departures, settings, selections, size
changes, states set at hand. -/
def Quiet (bell : Nat) : Ev → Prop
  | .resume => False
  | .msg (.bellRung _ who) => who ≠ bell
  | .msg (.call c) => c ≠ Generated.call_LOOK_TO
  | .msg .stopTouch => False
  | .msg _ => True

theorem deliver_quiet (wt : K → K) (w : World K) (e : Ev) (bell : Nat) (hand : Bool) (hq : Quiet bell e)
    (ha : Armed w bell hand) : Armed (World.deliver wt w e) bell hand := by
  cases e with
  | resume => exact hq.elim
  | msg m =>
    refine deliver_msg_told wt w m (P := fun rh => ∃ wr, rh.wait = some wr ∧ bell ∈ wr.expected hand ∧
      wr.shouldReturn = false) (by rintro rfl; exact hq rfl) ?_ ha
    -- the regression rhythm does not matter; the wrapper is left alone or does its half of the call
    rintro rh o reg wait ho ⟨wr, hw, hexp, hret⟩ - (rfl | rfl)
    · exact ⟨wr, hw, hexp, hret⟩
    · refine ⟨o.onWait wr, by rw [hw]; rfl, ?_⟩
      rcases ho with ⟨_, who, h, rfl, rfl⟩ | ⟨_, _, _, -, rfl⟩ | ⟨rfl, -⟩
      · -- a strike
        exact ⟨strike_disarms_only_itself wr who bell h hand hexp (fun hh => hq hh.1.symm),
          (shouldReturn_onBellRing wr who h).trans hret⟩
      · -- a setting
        exact ⟨hexp, hret⟩
      · -- Stop Touch
        exact hq.elim

/-- **Never ahead, however long and whatever else arrives.**  The main thread is polling for a human bell that is
awaited on the stroke being rung.  If none of the events still to come is a strike of that bell, a Look To or a
Stop Touch - they may be anything else: other ringers' strikes, calls, assignments, people coming and going,
settings, selections, size changes - then for the whole rest of the run, of whatever length, Wheatley strikes
nothing. -/
theorem silent_until_the_bell_rings (wt : K → K) (endTime : K) (bell : Nat) (hand : Bool) :
    ∀ (fuel : Nat) (w : World K) (d : K) (events : List (K × Ev)),
      w.pc = .userPoll bell true hand d → Armed w bell hand → (∀ ev ∈ events, Quiet bell ev.2) →
      ringsOf (World.run wt endTime fuel w events).1.obs = ringsOf w.obs := by
  intro fuel w d events hpc ha hq
  refine World.run_silent (I := fun w' : World K => (∃ d', w'.pc = .userPoll bell true hand d') ∧ Armed w' bell hand)
    (fun _ _ h => h) ?_ ?_ endTime fuel w events hq ⟨⟨d, hpc⟩, ha⟩
  · rintro w' ⟨⟨d', hpc'⟩, wr, hw, hexp, hret⟩
    rw [polls_on w' wt wr bell hand d' hpc' hw hexp hret]
    exact ⟨⟨⟨_, rfl⟩, wr, hw, hexp, hret⟩, rfl⟩
  · rintro w' e he ⟨⟨d', hpc'⟩, ha'⟩
    exact ⟨⟨d', (deliver_never_rings wt w' e).1.trans hpc'⟩, deliver_quiet wt w' e bell hand he ha'⟩

/-- Non-vacuity: a world whose main thread polls for bell 2 at handstroke with bell 2 awaited. -/
example : ∃ w : World Float, w.pc = .userPoll 2 true true 0 ∧ Armed w 2 true :=
  ⟨{ World.init (0 : Float) (Bot.init mkPlaceholder true false true none none)
        { reg := Reg.init 0.5 178 1 4 15 0,
          wait := some { (WaitR.init : WaitR Float) with expectedHand := [2] }, stub := none } [] none with
      pc := .userPoll 2 true true 0 }, rfl, ⟨_, rfl, by simp [WaitR.expected], rfl⟩⟩

/-- A strike of bell 3, a Bob, an assignment and a size change are quiet events for it, a strike of bell 2 and Look To
are not. -/
example : Quiet 2 (.msg (.bellRung [true, true, false] 3)) ∧ Quiet 2 (.msg (.call "Bob")) ∧
    Quiet 2 (.msg (.assign 2 7)) ∧ Quiet 2 (.msg (.sizeChange 8)) ∧
    ¬ Quiet 2 (.msg (.bellRung [true, false] 2)) ∧ ¬ Quiet 2 (.msg (.call "Look to")) := by
  simp [Quiet, Generated.call_LOOK_TO]

end Silence

end Wheatley.C09
