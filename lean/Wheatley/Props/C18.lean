/-
C18 — command-line values parse to what the syntax says or fail with their own error.

`Chars` abstracts Python's Unicode tables (decimal value of a character, white space).  That `int()` cannot
fail after `isdecimal()` (`pyInt_decimal`, `placeNotation_total`) holds for every interpretation that satisfies
`Sane` — what Python guarantees: a decimal digit is not white space, an underscore or a sign.  The values of
numerals and peal speeds (`pyInt_numeral`, `pealSpeed_value`) are computed under `Ascii`: the interpretation is right
about `0`–`9`, `h` and `m`.  Everything else holds of every interpretation.
-/
import Wheatley.Lemmas.RoundTrip
import Wheatley.Lemmas.Gen
import Wheatley.Lemmas.Cli
namespace Wheatley.C18
open Wheatley.Parse

structure Sane (c : Chars) : Prop where
  digit_not_space : ∀ ch d, c.dv ch = some d → c.sp ch = false
  digit_not_underscore : c.dv '_' = none
  digit_not_minus : c.dv '-' = none
  digit_not_plus : c.dv '+' = none

/-! ### `int()` on a string of digits -/

theorem strip_id (c : Chars) (l : List Char) (h : ∀ ch ∈ l, c.sp ch = false) : strip c l = l := by
  have key : ∀ m : List Char, (∀ ch ∈ m, c.sp ch = false) → m.dropWhile c.sp = m := by
    intro m hm
    cases m with
    | nil => rfl
    | cons x xs => rw [List.dropWhile_cons_of_neg (by simp [hm x])]
  unfold strip
  rw [key l h, key l.reverse (fun ch hc => h ch (List.mem_reverse.mp hc)), List.reverse_reverse]

/-- `int()` reads `ch` as the digit `n`.  Under `Sane` every character with a decimal value is one; under `Ascii`,
`0`–`9` are. -/
structure Digit (c : Chars) (ch : Char) (n : Nat) : Prop where
  dv : c.dv ch = some n
  sp : c.sp ch = false
  ne_underscore : ch ≠ '_'
  ne_minus : ch ≠ '-'
  ne_plus : ch ≠ '+'

/-- `d` gives the digits their values (`Sane.digit` and `Ascii.isDigit` have one each); `prev` says that a digit has
been read, without which the end of the string is no number. -/
theorem digitsVal_digits (c : Chars) (d : Char → Nat) :
    ∀ (s : List Char) (acc : Nat) (prev : Bool), (∀ ch ∈ s, Digit c ch (d ch)) → (s = [] → prev = true) →
      digitsVal c s acc prev = some (s.foldl (fun a ch => a * 10 + d ch) acc) := by
  intro s
  induction s with
  | nil => exact fun acc prev _ h => if_pos (h rfl)
  | cons ch rest ih =>
    intro acc prev hd _
    obtain ⟨hch, hrest⟩ := List.forall_mem_cons.mp hd
    unfold digitsVal
    rw [if_neg hch.ne_underscore, hch.dv]
    exact ih _ true hrest fun _ => rfl

theorem pyInt_digits (c : Chars) (d : Char → Nat) (s : List Char) (hne : s ≠ [])
    (hd : ∀ ch ∈ s, Digit c ch (d ch)) :
    pyInt c s = some ((s.foldl (fun a ch => a * 10 + d ch) 0 : Nat) : Int) := by
  have hs := strip_id c s fun ch h => (hd ch h).sp
  fun_cases pyInt c s
  -- a sign in front would be one of the digits
  · rename_i r h
    exact absurd rfl (hd '-' (hs.symm.trans h ▸ List.mem_cons_self)).ne_minus
  · rename_i r h
    exact absurd rfl (hd '+' (hs.symm.trans h ▸ List.mem_cons_self)).ne_plus
  · rw [hs, digitsVal_digits c d s 0 false hd fun h => absurd h hne]; rfl

theorem Sane.digit {c : Chars} (hs : Sane c) {ch : Char} (h : (c.dv ch).isSome) : Digit c ch ((c.dv ch).getD 0) := by
  obtain ⟨n, hn⟩ := Option.isSome_iff_exists.mp h
  have ne : ∀ x, c.dv x = none → ch ≠ x := by rintro x hx rfl; rw [hx] at hn; cases hn
  exact ⟨by rw [hn]; rfl, hs.digit_not_space ch n hn, ne _ hs.digit_not_underscore, ne _ hs.digit_not_minus,
    ne _ hs.digit_not_plus⟩

/-- After `isdecimal()`, `int()` cannot fail. -/
theorem pyInt_decimal (c : Chars) (hs : Sane c) (s : List Char) (h : isDecimal c s = true) :
    (pyInt c s).isSome := by
  unfold isDecimal at h
  simp only [Bool.and_eq_true, Bool.not_eq_true', List.all_eq_true] at h
  rw [pyInt_digits c _ s (by rintro rfl; cases h.1) fun ch hch => hs.digit (h.2 ch hch)]
  rfl

/-! ### Totality: no parser ever raises anything but its own error -/

theorem pealSpeed_total (c : Chars) (s : List Char) : (pealSpeed c s).isCrash = false := by
  fun_cases pealSpeed c s <;> rfl

theorem callSegment_total (c : Chars) (seg : List Char) : (callSegment c seg).isCrash = false := by
  fun_cases callSegment c seg
  -- what is not `ok` after the location has been read is returned as it is
  case case4 located _ =>
    unfold located
    repeat' split
    all_goals rfl
  all_goals rfl

theorem callDef_total (c : Chars) (s : List Char) : (callDef c s).isCrash = false := by
  unfold callDef
  fun_induction callDef.go c (splitOn '/' s) []
  -- a `crash` would be `callSegment`'s
  case case5 seg _ _ e h =>
    have := callSegment_total c seg
    rw [h] at this
    cases this
  all_goals first | rfl | assumption

/-- The second loop of `parse_start_row`, crossing the bells off a list one by one, is the library's test for
one list being a rearrangement of another. -/
theorem startRow_go_eq (s : List Char) (bells rem : List Nat) :
    startRow.go s bells rem = if bells.isPerm rem then .ok s.length else .own "StartRowParseError" := by
  induction bells generalizing rem with
  | nil => rfl
  | cons b rest ih =>
    rw [startRow.go, List.isPerm, ih]
    cases rem.contains b <;> rfl

theorem startRow_total (s : List Char) : (startRow s).isCrash = false := by
  fun_cases startRow s
  · rfl
  · rw [startRow_go_eq]; split <;> rfl

theorem compArg_go_total (c : Chars) (id : Int) (qs : List (List Char)) (key : Option (List Char))
    (sub : Option Int) : (compArg.go c id qs key sub).isCrash = false := by
  fun_induction compArg.go c id qs key sub <;> first | rfl | assumption

theorem compArg_total (c : Chars) (parsed : Option (List Char × List Char)) :
    (compArg c parsed).isCrash = false := by
  fun_cases compArg c parsed <;> first | rfl | exact compArg_go_total ..

/-- **`parse_place_notation` is total**: after the `isdecimal()` test `int()` cannot fail, so a bare
`ValueError` is impossible. -/
theorem placeNotation_total (c : Chars) (hs : Sane c) (s : List Char) : (placeNotation c s).isCrash = false := by
  fun_cases placeNotation c s
  -- the one `crash` leaf: `int()` has failed after `isdecimal()`
  case case2 hd hnone =>
    have := pyInt_decimal c hs _ (by simpa using hd)
    rw [hnone] at this
    cases this
  all_goals rfl

/-! ### Accepted values can be rung -/

theorem validPiece_converts (p : List Char) (h : validPiece upperAscii p = true) : (convertPiece p).isSome := by
  unfold convertPiece
  split
  · rfl
  · rename_i hp
    simp only [validPiece, hp, decide_false, Bool.false_or, List.all_eq_true] at h
    refine RoundTrip.mapM_isSome bellOfChar _ fun y hy => ?_
    obtain ⟨x, hx, rfl⟩ := List.mem_map.mp hy
    unfold bellOfChar
    cases hq : bellNames.idxOf? (upperAscii x) with
    | none => exact absurd (List.contains_iff_mem.mp (h x hx)) (List.idxOf?_eq_none_iff.mp hq)
    | some i => rfl

theorem validBlock_converts (s : List Char) (e : Bool) (h : validBlock upperAscii s = true) :
    (convertBlock s e).isSome := by
  obtain ⟨conv, hc⟩ := Option.isSome_iff_exists.mp <|
    RoundTrip.mapM_isSome convertPiece (pnPieces s) fun p hp => validPiece_converts p (List.all_eq_true.mp h p hp)
  simp only [convertBlock, hc]
  rfl

/-- **`valid_pn` accepts only what `convert_pn` can convert.** -/
theorem valid_implies_convert (s : List Char) (h : validPN upperAscii s = true) : (convertPN s).isSome := by
  unfold validPN at h
  unfold convertPN
  split at h
  · obtain ⟨bs, hb⟩ := Option.isSome_iff_exists.mp <|
      RoundTrip.mapM_isSome (convertBlock · true) (splitOn ',' s) fun b hb =>
        validBlock_converts b true (List.all_eq_true.mp h b hb)
    rw [if_pos ‹_›, hb]
    rfl
  · rw [if_neg ‹_›]
    exact validBlock_converts s false h

theorem placeNotation_ok (c : Chars) (s pn : List Char) (stage : Nat) (h : placeNotation c s = .ok (stage, pn)) :
    1 ≤ stage ∧ stage ≤ maxBell ∧ validPN upperAscii pn = true := by
  revert h
  fun_cases placeNotation c s <;> intro h <;> cases h
  rename_i hr _ hv
  simp only [Bool.not_eq_true, Bool.or_eq_false_iff, decide_eq_false_iff_not, Bool.not_eq_false'] at hr hv
  exact ⟨by omega, by omega, hv⟩

/-- An accepted stage is one Wheatley has bells for. -/
theorem accepted_stage_in_range (c : Chars) (s pn : List Char) (stage : Nat)
    (h : placeNotation c s = .ok (stage, pn)) : 1 ≤ stage ∧ stage ≤ 16 :=
  have := placeNotation_ok c s pn stage h
  ⟨this.1, this.2.1⟩

theorem parseCallDict_isSome (n : Nat) (d : List (Int × List Char)) (h : ∀ p ∈ d, (convertPN p.2).isSome) :
    (parseCallDict n d).isSome := by
  refine RoundTrip.mapM_isSome _ _ fun p hp => ?_
  obtain ⟨pns, hpns⟩ := Option.isSome_iff_exists.mp (h p hp)
  simp only [hpns]
  rfl

theorem mkPN_succeeds (stage : Nat) (pn : List Char) (bob single : Option (List (Int × List Char))) (idx : Int)
    (hs : stage ≤ maxBell) (hv : (convertPN pn).isSome) (hb : ∀ p ∈ bob.getD defaultBob, (convertPN p.2).isSome)
    (hsg : ∀ p ∈ single.getD defaultSingle, (convertPN p.2).isSome) :
    ∃ g c, mkPN stage pn bob single idx none = some g ∧ g.kind = .pn c := by
  obtain ⟨mpn, hm⟩ := Option.isSome_iff_exists.mp hv
  obtain ⟨b, hb⟩ := Option.isSome_iff_exists.mp (parseCallDict_isSome mpn.length _ hb)
  obtain ⟨sg, hsg⟩ := Option.isSome_iff_exists.mp (parseCallDict_isSome mpn.length _ hsg)
  simp only [mkPN, startingRow, if_neg (Nat.not_lt.mpr hs), hm, hb, hsg]
  exact ⟨_, _, rfl, rfl⟩

/-- **Every accepted call definition can be rung**: each of its notations converts. -/
theorem accepted_call_converts (c : Chars) (seg pn : List Char) (loc : Int)
    (h : callSegment c seg = .ok (loc, pn)) : (convertPN pn).isSome ∧ pn ≠ [] := by
  revert h
  fun_cases callSegment c seg
  -- the one leaf that accepts
  case case3 hne hv =>
    intro h
    cases h
    exact ⟨valid_implies_convert _ (by simpa using hv), by rintro rfl; exact hne rfl⟩
  -- no location could be read
  case case4 hno => exact fun h => (hno _ _ h).elim
  all_goals nofun

/-- **An accepted notation can actually be rung, indefinitely and through any calls**: a generator built
from place notation never fails to produce the next row, whatever Bobs, Singles and resets come in
between (places above the stage, empty call definitions, calls defined nowhere included). -/
theorem pn_never_fails (c : PNCfg) : ∀ (ops : List GenOp) (g : Gen), g.kind = .pn c →
    ∀ ev ∈ (g.runOps ops).2, ∃ r calls, ev = GenEv.row r calls := by
  intro ops
  induction ops with
  | nil => exact fun _ _ _ h => nomatch h
  | cons op ops ih =>
    intro g hk ev hev
    have hk' : (g.apply op).1.kind = .pn c := (Gen.cfg_kind (Gen.apply_cfg g op)).trans hk
    cases op with
    | next hand =>
      unfold Gen.runOps at hev
      rw [Gen.apply, Gen.next_pn hk] at hev hk'
      exact (List.mem_cons.mp hev).elim (fun e => ⟨_, _, e⟩) (ih _ hk' ev)
    | _ => exact ih _ hk' ev hev

/-- … in particular the generator of every accepted `--place-notation` value. -/
theorem accepted_notation_rings (c : Chars) (s pn : List Char) (stage : Nat)
    (h : placeNotation c s = .ok (stage, pn)) :
    ∃ g, mkPN stage pn none none 0 none = some g ∧
      ∀ ops, ∀ ev ∈ (g.runOps ops).2, ∃ r calls, ev = GenEv.row r calls := by
  have ⟨_, hs, hv⟩ := placeNotation_ok c s pn stage h
  obtain ⟨g, c, hg, hk⟩ := mkPN_succeeds stage pn none none 0 hs (valid_implies_convert pn hv)
    (by decide +kernel) (by decide +kernel)
  exact ⟨g, hg, fun ops => pn_never_fails c ops g hk⟩

/-- **Every accepted place notation can be rung**: the generator's constructor succeeds on it. -/
theorem accepted_notation_can_be_rung (c : Chars) (s pn : List Char) (stage : Nat)
    (h : placeNotation c s = .ok (stage, pn)) : (mkPN stage pn none none 0 none).isSome := by
  obtain ⟨g, hg, _⟩ := accepted_notation_rings c s pn stage h
  rw [hg]
  rfl

/-- **What `parse_start_row` accepts, exactly**: a string of bell names that is a rearrangement of
`1 … k` for its largest bell `k` (so no bell twice, none missing below the largest); the value is the
length of the string.  Everything else is its own `StartRowParseError`. -/
theorem startRow_accepts_iff (s : List Char) (n : Nat) :
    startRow s = .ok n ↔
      ∃ bells, bellsOfString s = some bells ∧ bells.Perm (rounds (bells.foldl max 0)) ∧ n = s.length := by
  unfold startRow
  cases hb : bellsOfString s with
  | none => simp
  | some bells =>
    simp only [Option.some.injEq, exists_eq_left', startRow_go_eq, ← List.isPerm_iff]
    split
    · exact ⟨fun h => ⟨‹_›, (PRes.ok.inj h).symm⟩, fun h => h.2 ▸ rfl⟩
    · exact ⟨nofun, fun h => absurd h.1 ‹_›⟩

/-! Non-vacuity: Queens on six is accepted with value 6; a row with a gap is not. -/
example : startRow "135246".toList = .ok 6 ∧ startRow "1356".toList = .own "StartRowParseError" :=
  ⟨rfl, rfl⟩

/-! ### The value of a peal speed -/

/-- An interpretation of Python's Unicode tables that is right about ASCII: `0`–`9` are decimal digits
with their usual values and are not white space. -/
structure Ascii (c : Chars) : Prop where
  digit : ∀ ch : Char, ch.isDigit = true → c.dv ch = some (ch.toNat - 48)
  nospace : ∀ ch : Char, ch.isDigit = true → c.sp ch = false
  letters : c.sp 'h' = false ∧ c.sp 'm' = false

def numeral (n : Nat) : List Char := Nat.toDigits 10 n

theorem numeral_digits (n : Nat) : ∀ ch ∈ numeral n, ch.isDigit = true :=
  fun _ h => Nat.isDigit_of_mem_toDigits (by decide) (by decide) h

theorem numeral_ne_nil (n : Nat) : numeral n ≠ [] := Nat.toDigits_ne_nil

theorem numeral_value (n : Nat) : Nat.ofDigitChars 10 (numeral n) 0 = n := Nat.ofDigitChars_ten_toDigits

theorem isDigit_ne (ch : Char) (h : ch.isDigit = true) (x : Char) (hx : x.isDigit = false) : ch ≠ x := by
  intro e; subst e; rw [h] at hx; cases hx

theorem not_mem_digits (l : List Char) (hd : ∀ ch ∈ l, ch.isDigit = true) (x : Char) (hx : x.isDigit = false) :
    x ∉ l :=
  fun h => isDigit_ne x (hd x h) x hx rfl

theorem Ascii.isDigit {c : Chars} (ha : Ascii c) {ch : Char} (h : ch.isDigit = true) :
    Digit c ch (ch.toNat - '0'.toNat) :=
  ⟨ha.digit ch h, ha.nospace ch h, isDigit_ne ch h _ (by decide), isDigit_ne ch h _ (by decide),
    isDigit_ne ch h _ (by decide)⟩

theorem pyInt_ascii (c : Chars) (ha : Ascii c) (l : List Char) (hne : l ≠ []) (hd : ∀ ch ∈ l, ch.isDigit = true) :
    pyInt c l = some (Nat.ofDigitChars 10 l 0 : Int) := by
  rw [pyInt_digits c _ l hne fun ch h => ha.isDigit (hd ch h)]
  simp only [Nat.ofDigitChars, Nat.mul_comm]

theorem pyInt_numeral (c : Chars) (ha : Ascii c) (n : Nat) : pyInt c (numeral n) = some (n : Int) := by
  rw [pyInt_ascii c ha _ (numeral_ne_nil n) (numeral_digits n), numeral_value]

theorem endsWith_of_not_mem (ch : Char) (l : List Char) (h : ch ∉ l) : endsWith ch l = false :=
  Bool.eq_false_iff.mpr fun he => h (List.mem_of_getLast? (beq_iff_eq.mp he))

/-- What the documented forms are made of besides the final `m`: ASCII digits and `h`.  Neither is white space
or an `m`, so `strip()` changes nothing and the test for a final `m` sees none. -/
theorem Ascii.plain {c : Chars} (ha : Ascii c) {ch : Char} (h : ch.isDigit = true ∨ ch = 'h') :
    c.sp ch = false ∧ ch ≠ 'm' := by
  rcases h with h | rfl
  · exact ⟨ha.nospace ch h, isDigit_ne ch h _ (by decide)⟩
  · exact ⟨ha.letters.1, by decide⟩

theorem Ascii.plain_hours {c : Chars} (ha : Ascii c) {hs ms : List Char} (hhs : ∀ ch ∈ hs, ch.isDigit = true)
    (hms : ∀ ch ∈ ms, ch.isDigit = true) : ∀ ch ∈ hs ++ 'h' :: ms, c.sp ch = false ∧ ch ≠ 'm' := fun ch h =>
  ha.plain <| (List.mem_append.mp h).elim (fun h => .inl (hhs ch h)) fun h =>
    (List.mem_cons.mp h).symm.imp (hms ch) id

/-- A final `m` (there is one or not, `sfx`, as in `SpeedText.text`) is dropped before anything else is looked at. -/
theorem pealSpeed_m (c : Chars) (hm : c.sp 'm' = false) (t : List Char)
    (ht : ∀ ch ∈ t, c.sp ch = false ∧ ch ≠ 'm') (sfx : Bool) :
    pealSpeed c (t ++ if sfx then ['m'] else []) = pealSpeed c t := by
  cases sfx
  · rw [if_neg nofun, List.append_nil]
  · have hs : strip c (t ++ ['m']) = t ++ ['m'] := strip_id c _ fun ch h =>
      (List.mem_append.mp h).elim (fun h => (ht ch h).1) fun h => List.mem_singleton.mp h ▸ hm
    have he : endsWith 'm' (t ++ ['m']) = true := by simp [endsWith]
    unfold pealSpeed
    simp only [if_true, hs, he, List.dropLast_concat, strip_id c t fun ch h => (ht ch h).1,
      endsWith_of_not_mem 'm' t fun h => (ht _ h).2 rfl, Bool.false_eq_true, if_false]

theorem pealSpeed_minutes (c : Chars) (ha : Ascii c) (l : List Char) (hne : l ≠ [])
    (hd : ∀ ch ∈ l, ch.isDigit = true) : pealSpeed c l = .ok (Nat.ofDigitChars 10 l 0) := by
  have hp : ∀ ch ∈ l, c.sp ch = false ∧ ch ≠ 'm' := fun ch h => ha.plain (.inl (hd ch h))
  have hh : l.contains 'h' = false := by simpa using not_mem_digits l hd 'h' (by decide)
  unfold pealSpeed
  dsimp only
  rw [strip_id c l fun ch h => (hp ch h).1, endsWith_of_not_mem 'm' l fun h => (hp _ h).2 rfl,
    if_neg Bool.false_ne_true, hh, if_neg Bool.false_ne_true, pyInt_ascii c ha l hne hd]
  exact if_neg (Int.not_lt.mpr (Int.natCast_nonneg _))

theorem pealSpeed_hours (c : Chars) (ha : Ascii c) (hs ms : List Char) (hne : hs ≠ [])
    (hhs : ∀ ch ∈ hs, ch.isDigit = true) (hms : ∀ ch ∈ ms, ch.isDigit = true)
    (h59 : Nat.ofDigitChars 10 ms 0 ≤ 59) :
    pealSpeed c (hs ++ 'h' :: ms) = .ok ((Nat.ofDigitChars 10 hs 0 : Int) * 60 + Nat.ofDigitChars 10 ms 0) := by
  have hp := ha.plain_hours hhs hms
  have hh : (hs ++ 'h' :: ms).contains 'h' = true := by simp
  have hsplit : splitOn 'h' (hs ++ 'h' :: ms) = [hs, ms] := by
    rw [RoundTrip.splitOn_append 'h' _ _ (not_mem_digits hs hhs 'h' (by decide)),
      RoundTrip.splitOn_nosep 'h' _ (not_mem_digits ms hms 'h' (by decide))]
  have hmin : (if ms.isEmpty then some 0 else pyInt c ms) = some (Nat.ofDigitChars 10 ms 0 : Int) := by
    cases ms with
    | nil => rfl
    | cons x xs => exact (if_neg Bool.false_ne_true).trans (pyInt_ascii c ha _ (List.cons_ne_nil _ _) hms)
  unfold pealSpeed
  simp only [strip_id c _ fun ch h => (hp ch h).1, endsWith_of_not_mem 'm' _ fun h => (hp _ h).2 rfl,
    Bool.false_eq_true, if_false, hh, if_true, hsplit, strip_id c hs fun ch h => ha.nospace ch (hhs ch h),
    strip_id c ms fun ch h => ha.nospace ch (hms ch h), pyInt_ascii c ha hs hne hhs, hmin]
  rw [if_neg (by omega), if_neg (by omega), if_neg (by omega)]

/-- The five documented ways of writing a peal speed (`178`, `178m`, `2h58`, `2h58m`, `3h`). -/
inductive SpeedText where
  | minutes (m : Nat) (suffix : Bool)
  | hoursMinutes (h m : Nat) (suffix : Bool)
  | hours (h : Nat)

def SpeedText.text : SpeedText → List Char
  | .minutes m sfx => numeral m ++ (if sfx then ['m'] else [])
  | .hoursMinutes h m sfx => numeral h ++ 'h' :: (numeral m ++ (if sfx then ['m'] else []))
  | .hours h => numeral h ++ ['h']

def SpeedText.value : SpeedText → Int
  | .minutes m _ => m
  | .hoursMinutes h m _ => (h : Int) * 60 + m
  | .hours h => (h : Int) * 60

def SpeedText.WF : SpeedText → Prop
  | .hoursMinutes _ m _ => m ≤ 59
  | _ => True

/-- **The value of a peal speed**: each documented form is converted to the number of minutes it says. -/
theorem pealSpeed_value (c : Chars) (ha : Ascii c) (t : SpeedText) (hw : t.WF) :
    pealSpeed c t.text = .ok t.value := by
  cases t with
  | minutes m sfx =>
    rw [SpeedText.text, pealSpeed_m c ha.letters.2 _ fun ch h => ha.plain (.inl (numeral_digits m ch h)),
      pealSpeed_minutes c ha _ (numeral_ne_nil m) (numeral_digits m), numeral_value]
    rfl
  | hoursMinutes h m sfx =>
    have hm : Nat.ofDigitChars 10 (numeral m) 0 ≤ 59 := by rw [numeral_value]; exact hw
    rw [SpeedText.text, ← List.cons_append, ← List.append_assoc,
      pealSpeed_m c ha.letters.2 _ (ha.plain_hours (numeral_digits h) (numeral_digits m)),
      pealSpeed_hours c ha _ _ (numeral_ne_nil h) (numeral_digits h) (numeral_digits m) hm, numeral_value,
      numeral_value]
    rfl
  | hours h =>
    rw [SpeedText.text, pealSpeed_hours c ha _ [] (numeral_ne_nil h) (numeral_digits h) nofun (by decide),
      numeral_value]
    exact congrArg PRes.ok (Int.add_zero _)

/-! Non-vacuity: the ASCII-only interpretation is `Ascii`, and `2h58` is 178 minutes. -/
def asciiChars : Chars :=
  { dv := fun ch => if ch.isDigit then some (ch.toNat - 48) else none, sp := fun ch => ch = ' ' }

example : Ascii asciiChars :=
  ⟨fun ch h => by simp [asciiChars, h],
   fun ch h => by
     have : ch ≠ ' ' := isDigit_ne ch h ' ' (by decide)
     simp [asciiChars, this],
   by decide⟩

example : (SpeedText.hoursMinutes 2 58 false).text = "2h58".toList ∧
    (SpeedText.hoursMinutes 2 58 false).value = 178 ∧ (SpeedText.hoursMinutes 2 58 false).WF :=
  ⟨by decide, rfl, (by decide : 58 ≤ 59)⟩

/-- A start row that the syntax refuses ends the run with the start row's own message - before anything else
is looked at. -/
theorem cli_bad_start_row (c : Chars) (a : Cli.Args) (u : Option (List Char × List Char)) (s : List Char)
    (e : String) (hs : a.startRow = some s) (hbad : startRow s = .own e) :
    Cli.consoleArgs c a u = .exitStartRow := by
  simp [Cli.consoleArgs, Cli.startRowOk, hs, hbad]

/-- A peal speed that the syntax refuses ends the run with the peal speed's own message (the start row and the
generator having been accepted). -/
theorem cli_bad_peal_speed (c : Chars) (a : Cli.Args) (u : Option (List Char × List Char)) (src : Cli.Source)
    (e : String) (hs : ∀ s, a.startRow = some s → ∃ n, startRow s = .ok n)
    (hg : Cli.createRowGenerator c a u = .ok src) (hbad : pealSpeed c a.pealSpeed = .own e) :
    Cli.consoleArgs c a u = .exitPealSpeed := by
  simp [Cli.consoleArgs, Cli.startRowOk_of_accepted a hs, hg, hbad]

/-- A place notation that the syntax refuses: "Bad value for '--place-notation'". -/
theorem cli_bad_place_notation (c : Chars) (a : Cli.Args) (u : Option (List Char × List Char)) (text : List Char)
    (e : String) (hc : a.comp = none) (hm : a.method = none) (hp : a.pn = some text)
    (hbad : placeNotation c text = .own e) : Cli.createRowGenerator c a u = .error .exitPN := by
  simp [Cli.createRowGenerator, hc, hm, hp, hbad]

/-- A call definition that the syntax refuses leaves `main` as the calls' own error. -/
theorem cli_bad_call (c : Chars) (a : Cli.Args) (u : Option (List Char × List Char)) (text pn : List Char)
    (stage : Nat) (e : String) (hc : a.comp = none) (hm : a.method = none) (hp : a.pn = some text)
    (hpn : placeNotation c text = .ok (stage, pn)) (hb : callDef c a.bob = .own e) :
    Cli.createRowGenerator c a u = .error (.raised e) := by
  simp [Cli.createRowGenerator, hc, hm, hp, hpn, hb]

/-- What is built is never built from a refused value: the peal speed handed to the rhythm is the value of
the text given, and the generator is the one `create_row_generator` accepted. -/
theorem cli_built_from_accepted_values (c : Chars) (a : Cli.Args) (u : Option (List Char × List Char))
    (cfg : Cli.Cfg) (h : Cli.consoleArgs c a u = .built cfg) :
    pealSpeed c a.pealSpeed = .ok cfg.pealSpeed ∧ Cli.createRowGenerator c a u = .ok cfg.source := by
  obtain ⟨src, minutes, hg, hp, rfl⟩ := Cli.consoleArgs_built c a u cfg h
  exact ⟨hp, hg⟩

/-- Non-vacuity: `-p 6:x16x16x16,12 -H -S 3h` is built, with both handbell switches and 180 minutes; `-S 3x`
is refused with the peal speed's message; no generator option is a usage error. -/
example :
    (match Cli.consoleMain asciiChars [.pn "6:x16x16x16,12".toList, .handbell, .pealSpeed "3h".toList] none with
     | .built cfg => cfg.udi && cfg.sar && cfg.pealSpeed == 180 && cfg.useWait
     | _ => false) = true ∧
    (match Cli.consoleMain asciiChars [.pealSpeed "3x".toList, .pn "6:x16x16x16,12".toList] none with
     | .exitPealSpeed => true
     | _ => false) = true ∧
    (match Cli.consoleMain asciiChars [.udi] none with
     | .usage => true
     | _ => false) = true := by
  decide +kernel

end Wheatley.C18
